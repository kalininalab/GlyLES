-- the property modules; they import the lemma library (DESIGN.md 14.1b says what each module of it is for)
import GlyProofs.Props.C01
import GlyProofs.Props.C02
import GlyProofs.Props.C03
import GlyProofs.Props.C04
import GlyProofs.Props.C05
import GlyProofs.Props.C06
import GlyProofs.Props.C07
import GlyProofs.Props.C08
import GlyProofs.Props.C09
import GlyProofs.Props.C10
import GlyProofs.Props.C11
import GlyProofs.Props.C12
import GlyProofs.Props.C13
import GlyProofs.Props.C14
import GlyProofs.Props.C15
import GlyProofs.Props.C16
import GlyProofs.Props.C17
