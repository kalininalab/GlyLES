import GlyModel.Smiles.Tree
/-
  How a run of the token semantics depends on the state it starts from. `step` is read through its inversion `Step`; a run reads of a
  state only `prev`, `stack`, `pend`, `opens` and the number of atoms, so one simulation (`run_lift`: atom indices sent through a map,
  further stack entries and open labels underneath, atom texts free) gives every frame property the assembly proofs use.
-/
namespace Gly.Smi

theorem run_cons (s : St) (t : Tok) (ts : List Tok) : run s (t :: ts) = (step s t).bind (run · ts) := by
  simp only [run]; cases step s t <;> rfl

theorem run_append (s : St) (a b : List Tok) :
    run s (a ++ b) = (run s a).bind (fun s' => run s' b) := by
  induction a generalizing s with
  | nil => rfl
  | cons t ts ih => simp only [List.cons_append, run_cons, ih, Option.bind_assoc]

/-- The successful steps, one constructor per branch of `step`. -/
inductive Step (s : St) : Tok → St → Prop
  | atom (a : Atom) : Step s (.atom a)
      { s with atoms := s.atoms ++ [a],
               evs := s.evs ++ (s.prev.map (Ev.bond · s.atoms.length s.pend)).toList,
               prev := some s.atoms.length, pend := none }
  | bond (b : Char) {p : Nat} (hp : s.prev = some p) (hq : s.pend = none) : Step s (.bond b) { s with pend := some b }
  | lpar {p : Nat} (hp : s.prev = some p) (hq : s.pend = none) : Step s .lpar { s with stack := p :: s.stack }
  | rpar {p : Nat} {rest : List Nat} (hs : s.stack = p :: rest) (hq : s.pend = none) :
      Step s .rpar { s with prev := some p, stack := rest }
  | rclose (l : Nat) {p q : Nat} (hp : s.prev = some p) (hl : lookupLabel l s.opens = some q) : Step s (.ring l)
      { s with evs := s.evs ++ [Ev.rclose p q l s.pend], opens := eraseLabel l s.opens, pend := none }
  | ropen (l : Nat) {p : Nat} (hp : s.prev = some p) (hl : lookupLabel l s.opens = none) : Step s (.ring l)
      { s with evs := s.evs ++ [Ev.ropen p l s.pend], opens := (l, p) :: s.opens, pend := none }

theorem step_iff {s s' : St} {t : Tok} : step s t = some s' ↔ Step s t s' := by
  constructor
  · -- the branches of `step`; `cases h` closes the four that fail
    fun_cases step s t <;> intro h <;> cases h
    · cases hp : s.prev <;> simpa [hp] using Step.atom (s := s) _
    · exact .bond _ ‹_› ‹_›
    · exact .lpar ‹_› ‹_›
    · exact .rpar ‹_› ‹_›
    · exact .rclose _ ‹_› ‹_›
    · exact .ropen _ ‹_› ‹_›
  · intro h
    cases h <;> simp [step, *]
    cases s.prev <;> rfl

theorem St.ext {a b : St} (h1 : a.atoms = b.atoms) (h2 : a.evs = b.evs) (h3 : a.prev = b.prev) (h4 : a.stack = b.stack)
    (h5 : a.pend = b.pend) (h6 : a.opens = b.opens) : a = b := by
  cases a; cases b; simp_all

theorem Ev.map_id : Ev.map id = id := funext fun e => by cases e <;> rfl

theorem run_cons_some {s s' : St} {t : Tok} {ts : List Tok} (h : run s (t :: ts) = some s') :
    ∃ s1, Step s t s1 ∧ run s1 ts = some s' := by
  rw [run_cons, Option.bind_eq_some_iff] at h
  exact h.imp fun s1 h => ⟨step_iff.mp h.1, h.2⟩

theorem run_invariant {P : St → Prop} (hstep : ∀ {s t s'}, P s → Step s t s' → P s') :
    ∀ {ts s s'}, P s → run s ts = some s' → P s'
  | [], _, _, hP, rfl => hP
  | t :: ts, s, s', hP, h => by
    obtain ⟨s1, h1, h2⟩ := run_cons_some h
    exact run_invariant hstep (hstep hP h1) h2

theorem run_atoms : ∀ {ts : List Tok} {s x : St}, run s ts = some x → x.atoms = s.atoms ++ atomsOf ts
  | [], s, _, rfl => (List.append_nil s.atoms).symm
  | t :: ts, s, x, h => by
    obtain ⟨s1, h1, h2⟩ := run_cons_some h
    rw [run_atoms h2]; cases h1 <;> simp [atomsOf]

theorem run_init_atoms {ts : List Tok} {x : St} (h : run St.init ts = some x) : x.atoms = atomsOf ts := by
  simpa [St.init] using run_atoms h

theorem mem_labelsOf {l : Nat} {ts : List Tok} : l ∈ labelsOf ts ↔ Tok.ring l ∈ ts := by
  induction ts with
  | nil => simp [labelsOf]
  | cons t ts ih => cases t <;> simp [labelsOf, ih]

theorem mem_atomsOf {a : Atom} {ts : List Tok} : a ∈ atomsOf ts ↔ Tok.atom a ∈ ts := by
  induction ts with
  | nil => simp [atomsOf]
  | cons t ts ih => cases t <;> simp [atomsOf, ih]

/-! ### finished runs -/

def St.mol (s : St) : Mol := ⟨s.atoms, s.evs⟩

theorem sem_eq_some {ts : List Tok} {M : Mol} :
    sem ts = some M ↔ ∃ s, run St.init ts = some s ∧ s.closed = true ∧ s.mol = M := by
  unfold sem
  cases run St.init ts <;> simp [St.mol]

theorem closed_parts {s : St} (h : s.closed = true) : s.stack = [] ∧ s.opens = [] ∧ s.pend = none := by
  simpa [St.closed, and_assoc] using h

/-- closedness looks at whether stack and open labels are empty, not at what they hold -/
theorem St.closed_of_map {a b : St} {f : Nat → Nat} {g : Nat × Nat → Nat × Nat}
    (hs : b.stack = a.stack.map f) (ho : b.opens = a.opens.map g) (hp : b.pend = a.pend) : b.closed = a.closed := by
  simp [St.closed, hs, ho, hp]

/-- the state after a single atom, read from the empty state -/
def St.one (x : Atom) : St := ⟨[x], [], some 0, [], none, []⟩

theorem run_atom_init (x : Atom) (ts : List Tok) : run St.init (.atom x :: ts) = run (St.one x) ts := rfl

/-! ### the open-label list -/

/-- an open-label entry (label, atom) with its atom index sent through `f` -/
def shiftO (f : Nat → Nat) (o : Nat × Nat) : Nat × Nat := (o.1, f o.2)

theorem shiftO_id : shiftO id = id := rfl

-- `lookupLabel` and `eraseLabel` are `List.find?` and `List.eraseP` on the label: their lemmas are the core library's
theorem lookupLabel_eq (l : Nat) (os : List (Nat × Nat)) : lookupLabel l os = (os.find? (·.1 == l)).map (·.2) := by
  fun_induction lookupLabel l os <;> simp [*]

theorem eraseLabel_eq (l : Nat) (os : List (Nat × Nat)) : eraseLabel l os = os.eraseP (·.1 == l) := by
  fun_induction eraseLabel l os <;> simp [*]

theorem lookupLabel_map (f : Nat → Nat) (l : Nat) (os : List (Nat × Nat)) :
    lookupLabel l (os.map (shiftO f)) = (lookupLabel l os).map f := by
  simp only [lookupLabel_eq, List.find?_map, Option.map_map]; rfl

theorem eraseLabel_map (f : Nat → Nat) (l : Nat) (os : List (Nat × Nat)) :
    eraseLabel l (os.map (shiftO f)) = (eraseLabel l os).map (shiftO f) := by
  simp only [eraseLabel_eq, List.eraseP_map]; rfl

theorem lookupLabel_append (l : Nat) (a b : List (Nat × Nat)) :
    lookupLabel l (a ++ b) = (lookupLabel l a).orElse (fun _ => lookupLabel l b) := by
  simp only [lookupLabel_eq, List.find?_append, Option.map_or, Option.orElse_eq_or]

theorem eraseLabel_append_of_lookup {l x : Nat} {a : List (Nat × Nat)} (b : List (Nat × Nat)) (h : lookupLabel l a = some x) :
    eraseLabel l (a ++ b) = eraseLabel l a ++ b := by
  rw [lookupLabel_eq, Option.map_eq_some_iff] at h
  obtain ⟨o, ho, _⟩ := h
  simp only [eraseLabel_eq]
  exact List.eraseP_append_left (List.find?_some ho) b (List.mem_of_find?_eq_some ho)

theorem lookupLabel_mem {l a : Nat} {os : List (Nat × Nat)} (h : lookupLabel l os = some a) : (l, a) ∈ os := by
  rw [lookupLabel_eq, Option.map_eq_some_iff] at h
  obtain ⟨⟨l', a'⟩, ho, rfl⟩ := h
  have := List.find?_some ho
  simp only [beq_iff_eq] at this
  exact this ▸ List.mem_of_find?_eq_some ho

theorem mem_of_mem_eraseLabel {l : Nat} {os : List (Nat × Nat)} {o : Nat × Nat} (h : o ∈ eraseLabel l os) : o ∈ os :=
  List.mem_of_mem_eraseP (eraseLabel_eq l os ▸ h)

/-! ### one simulation for all frames -/

/-- Two tokens have the same shape: equal, or both atoms (whatever their texts – element, stereo mark, H count). -/
def SameShape (t t' : Tok) : Prop := t = t' ∨ ∃ a a', t = Tok.atom a ∧ t' = Tok.atom a'

/-- token lists of the same shape, position by position -/
inductive ShapeList : List Tok → List Tok → Prop
  | nil : ShapeList [] []
  | cons {t t' : Tok} {ts ts' : List Tok} : SameShape t t' → ShapeList ts ts' → ShapeList (t :: ts) (t' :: ts')

theorem SameShape.of_atom {a : Atom} {t' : Tok} (h : SameShape (.atom a) t') : ∃ a', t' = .atom a' := by
  rcases h with rfl | ⟨_, a', _, rfl⟩
  · exact ⟨a, rfl⟩
  · exact ⟨a', rfl⟩

theorem SameShape.eq {t t' : Tok} (h : SameShape t t') (hn : ∀ a, t ≠ .atom a) : t' = t := by
  rcases h with rfl | ⟨a, _, rfl, _⟩
  · rfl
  · exact absurd rfl (hn a)

theorem ShapeList.refl : ∀ ts : List Tok, ShapeList ts ts
  | [] => .nil
  | _ :: ts => .cons (.inl rfl) (ShapeList.refl ts)

theorem ShapeList.append {u u' v v' : List Tok} (h1 : ShapeList u u') (h2 : ShapeList v v') : ShapeList (u ++ v) (u' ++ v') := by
  induction h1 with
  | nil => exact h2
  | cons ht _ ih => exact .cons ht ih

/-- To a continuation, `Y` looks like `X` with every atom index sent through `f`, on top of further branch points `ex` and
    further open labels `eo`; `f` sends the atoms still to come to the atoms still to come. A run reads nothing else of a
    state: not the texts of the atoms, not the events, not the absolute indices. -/
structure Lift (f : Nat → Nat) (ex : List Nat) (eo : List (Nat × Nat)) (X Y : St) : Prop where
  prev : Y.prev = X.prev.map f
  stack : Y.stack = X.stack.map f ++ ex
  opens : Y.opens = X.opens.map (shiftO f) ++ eo
  pend : Y.pend = X.pend
  next : ∀ k, f (X.atoms.length + k) = Y.atoms.length + k

theorem step_lift {f ex eo X Y X' t t'} (hL : Lift f ex eo X Y) (ht : SameShape t t')
    (hfree : ∀ l, t = .ring l → lookupLabel l eo = none) (h : Step X t X') :
    ∃ Y' es, Step Y t' Y' ∧ Lift f ex eo X' Y' ∧ X'.evs = X.evs ++ es ∧ Y'.evs = Y.evs ++ es.map (Ev.map f) := by
  obtain ⟨h1, h2, h3, h4, h5⟩ := hL
  have h0 : Y.atoms.length = f X.atoms.length := (h5 0).symm
  have hprev : ∀ {p}, X.prev = some p → Y.prev = some (f p) := fun hp => by rw [h1, hp]; rfl
  have hpend : X.pend = none → Y.pend = none := fun hq => by rw [h4, hq]
  cases h with
  | atom a =>
    obtain ⟨a', rfl⟩ := ht.of_atom
    refine ⟨_, _, .atom a', ⟨by simp [h0], h2, h3, rfl, fun k => ?_⟩, rfl, ?_⟩
    · simp only [List.length_append, List.length_singleton, Nat.add_assoc, Nat.add_comm 1 k, h5]
    · cases hp : X.prev <;> simp [h1, h4, hp, Ev.map, h0]
  | bond b hp hq =>
    obtain rfl := ht.eq (by simp)
    exact ⟨_, [], .bond b (hprev hp) (hpend hq), ⟨h1, h2, h3, rfl, h5⟩, by simp, by simp⟩
  | lpar hp hq =>
    obtain rfl := ht.eq (by simp)
    exact ⟨_, [], .lpar (hprev hp) (hpend hq), ⟨h1, by simp [h2], h3, h4, h5⟩, by simp, by simp⟩
  | rpar hs hq =>
    obtain rfl := ht.eq (by simp)
    exact ⟨_, [], .rpar (by rw [h2, hs]; rfl) (hpend hq), ⟨rfl, rfl, h3, h4, h5⟩, by simp, by simp⟩
  | @rclose l p q hp hl =>
    obtain rfl := ht.eq (by simp)
    have hl' : lookupLabel l Y.opens = some (f q) := by rw [h3, lookupLabel_append, lookupLabel_map, hl]; rfl
    refine ⟨_, _, .rclose l (hprev hp) hl', ⟨h1, h2, ?_, rfl, h5⟩, rfl, by simp [Ev.map, h4]⟩
    show eraseLabel l Y.opens = _
    rw [h3, eraseLabel_append_of_lookup eo (by rw [lookupLabel_map, hl]; rfl), eraseLabel_map]
  | ropen l hp hl =>
    obtain rfl := ht.eq (by simp)
    have hl' : lookupLabel l Y.opens = none := by
      rw [h3, lookupLabel_append, lookupLabel_map, hl]; simpa using hfree l rfl
    exact ⟨_, _, .ropen l (hprev hp) hl', ⟨h1, h2, by simp [h3, shiftO], rfl, h5⟩, rfl, by simp [Ev.map, h4]⟩

/-- **Frame and renaming in one.** A run from `X` is matched, token shape by token shape, by a run from any `Y` that lifts `X`,
    provided no label of the run is among the further open labels; the events written are the same up to `f`. -/
theorem run_lift {f ex eo ts ts'} (hf : ShapeList ts ts') : ∀ {X Y X'}, Lift f ex eo X Y →
    (∀ l, Tok.ring l ∈ ts → lookupLabel l eo = none) → run X ts = some X' →
    ∃ Y' es, run Y ts' = some Y' ∧ Lift f ex eo X' Y' ∧ X'.evs = X.evs ++ es ∧ Y'.evs = Y.evs ++ es.map (Ev.map f) := by
  induction hf with
  | nil => intro X Y X' hL _ h; cases h; exact ⟨Y, [], rfl, hL, by simp, by simp⟩
  | cons ht _ ih =>
    intro X Y X' hL hfree h
    obtain ⟨X1, h1, h2⟩ := run_cons_some h
    obtain ⟨Y1, es1, g1, hL1, e1, e1'⟩ := step_lift hL ht (fun l e => hfree l (e ▸ List.mem_cons_self)) h1
    obtain ⟨Y2, es2, g2, hL2, e2, e2'⟩ := ih hL1 (fun l hl => hfree l (List.mem_cons_of_mem _ hl)) h2
    exact ⟨Y2, es1 ++ es2, by rw [run_cons, step_iff.mpr g1]; exact g2, hL2, by rw [e2, e1, List.append_assoc],
      by rw [e2', e1', List.map_append, List.append_assoc]⟩

/-- `embed S p pd s`: the state reached from base state `S` (whose current atom is `p`, pending bond `pd`) after a block
    whose own run from the empty state is `s` (which already contains at least its first atom). -/
def embed (S : St) (p : Nat) (pd : Option Char) (s : St) : St :=
  let N := S.atoms.length
  { atoms := S.atoms ++ s.atoms,
    evs := S.evs ++ [Ev.bond p N pd] ++ s.evs.map (Ev.map (· + N)),
    prev := s.prev.map (· + N),
    stack := s.stack.map (· + N) ++ S.stack,
    pend := s.pend,
    opens := s.opens.map (shiftO (· + N)) ++ S.opens }

theorem run_embed (S : St) (p : Nat) (pd : Option Char) (ts : List Tok) (s s' : St)
    (hprev : s.prev.isSome = true)
    (hlab : ∀ l ∈ labelsOf ts, lookupLabel l S.opens = none)
    (h : run s ts = some s') :
    run (embed S p pd s) ts = some (embed S p pd s') := by
  have _ := hprev   -- not needed: a lifted run does not care whether `prev` is set
  have hL : Lift (· + S.atoms.length) S.stack S.opens s (embed S p pd s) :=
    ⟨rfl, rfl, rfl, rfl, fun k => by simp [embed]; omega⟩
  obtain ⟨Y, es, hY, ⟨l1, l2, l3, l4, _⟩, e1, e2⟩ := run_lift (.refl ts) hL (fun l hl => hlab l (mem_labelsOf.mpr hl)) h
  rw [hY, Option.some.injEq]
  exact St.ext (by simp [embed, run_atoms hY, run_atoms h]) (by simp [embed, e2, e1]) l1 l2 l4 l3

/-- `Y` is `X` seen through the renaming (for the part of the state a continuation can look at). -/
def Sim (N d : Nat) (X Y : St) : Prop :=
  Y.prev = X.prev.map (ren N d) ∧ Y.stack = X.stack.map (ren N d) ∧
  Y.opens = X.opens.map (shiftO (ren N d)) ∧ Y.pend = X.pend ∧
  N ≤ X.atoms.length ∧ Y.atoms.length = X.atoms.length + d

theorem run_sim (N d : Nat) (ts : List Tok) (X Y X' : St) (hs : Sim N d X Y) (h : run X ts = some X') :
    ∃ Y' as es, run Y ts = some Y' ∧ Sim N d X' Y' ∧
      X'.atoms = X.atoms ++ as ∧ X'.evs = X.evs ++ es ∧
      Y'.atoms = Y.atoms ++ as ∧ Y'.evs = Y.evs ++ es.map (Ev.map (ren N d)) := by
  obtain ⟨h1, h2, h3, h4, hN, hlen⟩ := hs
  have hL : Lift (ren N d) [] [] X Y :=
    ⟨h1, by simp [h2], by simp [h3], h4, fun k => by simp only [ren]; rw [if_neg (by omega)]; omega⟩
  obtain ⟨Y', es, hY, ⟨l1, l2, l3, l4, _⟩, e1, e2⟩ := run_lift (.refl ts) hL (fun _ _ => rfl) h
  have a1 := run_atoms h
  have a2 := run_atoms hY
  exact ⟨Y', atomsOf ts, es, hY, ⟨l1, by simpa using l2, by simpa using l3, l4, by simp [a1]; omega, by simp [a1, a2]; omega⟩,
    a1, e1, a2, e2⟩

/-- extra entries at the bottom of the branch stack are not looked at by a run that succeeds without them -/
theorem run_stackFrame (ts : List Tok) (s s' : St) (ex : List Nat) (h : run s ts = some s') :
    run { s with stack := s.stack ++ ex } ts = some { s' with stack := s'.stack ++ ex } := by
  have hL : Lift id ex [] s { s with stack := s.stack ++ ex } := ⟨by simp, by simp, by simp [shiftO_id], rfl, fun _ => rfl⟩
  obtain ⟨Y, es, hY, ⟨l1, l2, l3, l4, _⟩, e1, e2⟩ := run_lift (.refl ts) hL (fun _ _ => rfl) h
  rw [hY, Option.some.injEq]
  exact St.ext (by rw [run_atoms hY, run_atoms h]) (by rw [e2, e1, Ev.map_id, List.map_id]) (by simpa using l1)
    (by simpa using l2) l4 (by simpa [shiftO_id] using l3)

/-- Two states that differ at most in the texts of their atoms. -/
structure SameBonds (s s' : St) : Prop where
  evs : s'.evs = s.evs
  prev : s'.prev = s.prev
  stack : s'.stack = s.stack
  pend : s'.pend = s.pend
  opens : s'.opens = s.opens
  len : s'.atoms.length = s.atoms.length

/-- The bond structure a SMILES denotes – which atoms are bonded, in which order each atom sees its neighbours, which ring
    closures pair up – does not depend on the atoms' texts: strings of the same shape give the same events. -/
theorem run_shape {ts ts' : List Tok} (hf : ShapeList ts ts') {s s' x : St} (hs : SameBonds s s')
    (h : run s ts = some x) : ∃ x', run s' ts' = some x' ∧ SameBonds x x' := by
  have hL : Lift id [] [] s s' :=
    ⟨by simp [hs.prev], by simp [hs.stack], by simp [hs.opens, shiftO_id], hs.pend, fun k => by simp [hs.len]⟩
  obtain ⟨x', es, hx', ⟨l1, l2, l3, l4, l5⟩, e1, e2⟩ := run_lift hf hL (fun _ _ => rfl) h
  simp only [Ev.map_id, shiftO_id, List.map_id, id, List.append_nil, Option.map_id_fun] at l1 l2 l3 e2
  exact ⟨x', hx', ⟨by rw [e2, e1, hs.evs], l1, l2, l4, l3, by simpa using (l5 0).symm⟩⟩

/-! ### which labels a run leaves open -/

/-- every ring label that is open after a run was open before or was written during the run -/
theorem run_opens (ts : List Tok) : ∀ (s s' : St), run s ts = some s' → ∀ x ∈ s'.opens, x ∈ s.opens ∨ x.1 ∈ labelsOf ts := by
  simp only [mem_labelsOf]
  induction ts with
  | nil => intro s s' h x hx; cases h; exact .inl hx
  | cons t ts ih =>
    intro s s' h x hx
    obtain ⟨s1, h1, h2⟩ := run_cons_some h
    refine (ih s1 s' h2 x hx).elim (fun hx1 => ?_) (fun hl => .inr (List.mem_cons_of_mem _ hl))
    cases h1 with
    | rclose l hp hl => exact .inl (mem_of_mem_eraseLabel hx1)
    | ropen l hp hl => exact (List.mem_cons.mp hx1).symm.imp_right (by rintro rfl; exact List.mem_cons_self)
    | _ => exact .inl hx1

/-- **Label windows**: if every ring label written before the splice point is at most `B` and every label of the block to be
    spliced in is above `B`, none of the block's labels is open at the splice point – the label condition of `wfTree` follows from
    the arithmetic of the ring offsets (a child's labels start above all labels of its parent). -/
theorem labels_free_of_window (pre : List Tok) (S : St) (B : Nat) (labels : List Nat)
    (hrun : run St.init pre = some S) (hpre : ∀ l ∈ labelsOf pre, l ≤ B) (hblk : ∀ l ∈ labels, B < l) :
    labels.all (fun l => (lookupLabel l S.opens).isNone) = true := by
  simp only [List.all_eq_true, Option.isNone_iff_eq_none, Option.eq_none_iff_forall_ne_some]
  intro l hl a hlk
  rcases run_opens pre St.init S hrun (l, a) (lookupLabel_mem hlk) with h | h
  · cases h
  · exact Nat.lt_irrefl _ (Nat.lt_of_lt_of_le (hblk l hl) (hpre l h))

/-! ### `sanitize_smiles` at token level -/

/-
  `sanitize_smiles` (utils.py) rewrites the assembled string with two rules. At token level:
    `))` rule:  `( T ))`  ↦  `T )`      – a branch that ends a branch is written without its own parentheses;
    `((` rule:  `(( T ) U`  ↦  `( T U`  – a branch that starts a branch loses its parentheses.
  The first is sound wherever the `(` it removes may stand, so on every SMILES (theorem below). The second is not
  (`C02_sanitize_ll_counterexample`); RDKit rejects a branch that starts with a branch, the assembly never produces one (a child
  block starts with an atom), and every run counts how often `sanitize_smiles` is handed one.
-/

/-- **The `))` rule is sound**: if the inner branch `T` is balanced on its own (run with an empty branch stack it ends with an
    empty stack and nothing pending), then from every state in which a `(` may stand (a current atom, no bond symbol pending)
    `( T ))` and `T )` lead to the same state – same atoms, same bond events in the same order, same open ring labels. -/
theorem inline_last_branch (s s1 : St) (T : List Tok) (a : Nat) (hp : s.prev = some a) (hpe : s.pend = none)
    (hT : run { s with stack := [] } T = some s1) (hs : s1.stack = []) (hq : s1.pend = none) :
    run s (Tok.lpar :: (T ++ [Tok.rpar, Tok.rpar])) = run s (T ++ [Tok.rpar]) := by
  -- `T` runs the same above any branch stack: above `a :: s.stack` behind the `(`, above `s.stack` without it
  have h1 : run { s with stack := a :: s.stack } T = _ := run_stackFrame T { s with stack := [] } s1 (a :: s.stack) hT
  have h2 : run s T = _ := run_stackFrame T { s with stack := [] } s1 s.stack hT
  rw [run_cons, step_iff.mpr (.lpar hp hpe), Option.bind_some, run_append, h1, run_append, h2]
  -- on the left the first `)` takes `a` off again; the last `)` then meets the stack `s.stack` on both sides
  simp only [Option.bind_some, run, step, hs, hq, List.nil_append]

end Gly.Smi
