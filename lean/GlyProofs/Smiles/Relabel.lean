import GlyProofs.Smiles.Frame
namespace Gly.Smi

def Ev.relabel (f : Nat → Nat) : Ev → Ev
  | .ropen i l b => .ropen i (f l) b
  | .rclose i q l b => .rclose i q (f l) b
  | e => e

/-- an event with its ring label forgotten: which atoms are joined, in which slot, by which bond symbol -/
def Ev.unlabel : Ev → Ev
  | .ropen i _ b => .ropen i 0 b
  | .rclose i q _ b => .rclose i q 0 b
  | e => e

def St.relabel (f : Nat → Nat) (s : St) : St :=
  { s with evs := s.evs.map (Ev.relabel f), opens := s.opens.map (fun o => (f o.1, o.2)) }

/-- looking for the renamed label among the renamed entries is looking for the label among the entries -/
theorem relabel_pred (f : Nat → Nat) (hf : ∀ a b, f a = f b → a = b) (l : Nat) :
    ((·.1 == f l) ∘ fun o : Nat × Nat => (f o.1, o.2)) = (·.1 == l) :=
  funext fun o => Bool.eq_iff_iff.mpr (by simpa using (⟨hf _ _, congrArg f⟩ : f o.1 = f l ↔ o.1 = l))

theorem lookupLabel_relabel (f : Nat → Nat) (hf : ∀ a b, f a = f b → a = b) (l : Nat) (os : List (Nat × Nat)) :
    lookupLabel (f l) (os.map (fun o => (f o.1, o.2))) = lookupLabel l os := by
  simp only [lookupLabel_eq, List.find?_map, relabel_pred f hf, Option.map_map]; rfl

theorem eraseLabel_relabel (f : Nat → Nat) (hf : ∀ a b, f a = f b → a = b) (l : Nat) (os : List (Nat × Nat)) :
    eraseLabel (f l) (os.map (fun o => (f o.1, o.2))) = (eraseLabel l os).map (fun o => (f o.1, o.2)) := by
  simp only [eraseLabel_eq, List.eraseP_map, relabel_pred f hf]

theorem Step.relabel {f : Nat → Nat} (hf : ∀ a b, f a = f b → a = b) {s s' : St} {t : Tok} (h : Step s t s') :
    Step (s.relabel f) (relabelTok f t) (s'.relabel f) := by
  have hev : ∀ p n, (Option.map (Ev.bond · n s.pend) p).toList.map (Ev.relabel f) = (Option.map (Ev.bond · n s.pend) p).toList :=
    fun p n => by cases p <;> rfl
  cases h with
  | atom a => simpa [St.relabel, hev, relabelTok] using Step.atom (s := s.relabel f) a
  | bond b hp hq => exact .bond b hp hq
  | lpar hp hq => exact .lpar hp hq
  | rpar hs hq => exact .rpar hs hq
  | rclose l hp hl =>
    simpa [St.relabel, eraseLabel_relabel f hf, Ev.relabel, relabelTok] using
      Step.rclose (s := s.relabel f) (f l) hp (by simpa [St.relabel, lookupLabel_relabel f hf] using hl)
  | ropen l hp hl =>
    simpa [St.relabel, Ev.relabel, relabelTok] using
      Step.ropen (s := s.relabel f) (f l) hp (by simpa [St.relabel, lookupLabel_relabel f hf] using hl)

theorem run_relabel (f : Nat → Nat) (hf : ∀ a b, f a = f b → a = b) : ∀ (ts : List Tok) (s s' : St),
    run s ts = some s' → run (s.relabel f) (ts.map (relabelTok f)) = some (s'.relabel f)
  | [], _, _, rfl => rfl
  | t :: ts, s, s', h => by
    obtain ⟨s1, h1, h2⟩ := run_cons_some h
    rw [List.map_cons, run_cons, step_iff.mpr (h1.relabel hf)]
    exact run_relabel f hf ts s1 s' h2

theorem unlabel_relabel (f : Nat → Nat) (es : List Ev) : (es.map (Ev.relabel f)).map Ev.unlabel = es.map Ev.unlabel := by
  rw [List.map_map]; exact List.map_congr_left fun e _ => by cases e <;> rfl

/-- **Ring labels are names.** Renaming the ring-closure labels of a SMILES by any injective function (e.g. adding the
    nesting offset `ring_index`) gives a SMILES of the same molecule: same atoms, same events up to the label names, and it is
    closed iff the original was. -/
theorem relabel_same_molecule (f : Nat → Nat) (hf : ∀ a b, f a = f b → a = b) (ts : List Tok) (x : St)
    (h : run St.init ts = some x) :
    ∃ x', run St.init (ts.map (relabelTok f)) = some x' ∧ x'.atoms = x.atoms ∧
      x'.evs.map Ev.unlabel = x.evs.map Ev.unlabel ∧ x'.closed = x.closed :=
  ⟨x.relabel f, run_relabel f hf ts St.init x h, rfl, unlabel_relabel f x.evs, by simp [St.relabel, St.closed]⟩

end Gly.Smi
