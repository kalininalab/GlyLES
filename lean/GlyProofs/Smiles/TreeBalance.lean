import GlyProofs.Smiles.TreeTheorem
/-
  Mass balance over the whole tree: atoms (token level, every way of counting) and ring closures (Spec level).
-/
namespace Gly.Smi

/-! ### what a glycan gains and loses, residue by residue -/

mutual
/-- all atoms of all residue strings, plus one `N` per N-linkage -/
def gained : TNode → List Atom
  | .mk toks kids => atomsOf toks ++ gainedKids kids
def gainedKids : List (Atom × Bool × TNode) → List Atom
  | [] => []
  | (_, nl, k) :: rest => (if nl then [['N']] else []) ++ gained k ++ gainedKids rest
end

mutual
/-- one marker atom per linkage (it stands for the parent's linking O or N), plus the anomeric O of every N-linked child (the first
    atom of its string, which `blockOf` drops) -/
def lost : TNode → List Atom
  | .mk _ kids => lostKids kids
def lostKids : List (Atom × Bool × TNode) → List Atom
  | [] => []
  | (m, nl, k) :: rest => m :: ((if nl then (atomsOf (mergeTok k)).take 1 else []) ++ lost k ++ lostKids rest)
end

theorem countP_blockOf (nl : Bool) (child : List Tok) (hs : startsWithAtom child = true) (P : Atom → Bool) :
    (atomsOf (blockOf nl child)).countP P + (if nl then (atomsOf child).take 1 else []).countP P =
      (atomsOf child).countP P + (if nl then [['N']] else []).countP P := by
  obtain ⟨a, rest, rfl⟩ := startsWithAtom_iff.mp hs
  cases nl with
  | false => simp [blockOf]
  | true => simp [blockOf, atomsOf, atomsOf_append, List.countP_cons]; omega

/-- the atom balance of one subtree, for every way `P` of counting atoms -/
def BalOK (t : TNode) : Prop :=
  ∀ P : Atom → Bool, (atomsOf (mergeTok t)).countP P + (lost t).countP P = (gained t).countP P

mutual
/-- **Atom balance of the whole glycan**: the atoms of the assembled molecule plus what the linkages removed (`lost`) are the
    atoms of all residues (`gained`). -/
theorem tree_balance (isMk : Atom → Bool) (hN : isMk ['N'] = false) : (t : TNode) → wfTree isMk t = true → BalOK t
  | .mk toks kids, h => by
    obtain ⟨⟨A, hA, _⟩, hst, hpw, _, hk⟩ := wfTree_mk h
    obtain ⟨_, hB⟩ := kids_loop isMk hN kids toks A hA hst (kids_ok isMk hN kids toks hk) hpw
    intro P
    have hl := hB.count P
    have hk2 := kids_balance isMk hN kids toks hk P
    simp only [mergeTok, lost, gained, List.countP_append]
    omega
theorem kids_balance (isMk : Atom → Bool) (hN : isMk ['N'] = false) :
    (kids : List (Atom × Bool × TNode)) → (toks : List Tok) → wfKids isMk kids toks = true →
      ∀ P : Atom → Bool,
        ((kidBlocks kids).map fun x => (atomsOf x.2).countP P).sum + (lostKids kids).countP P =
          (gainedKids kids).countP P + (markersOf kids).countP P
  | [], toks, _ => by intro P; simp [kidBlocks, lostKids, gainedKids, markersOf]
  | (m, nl, k) :: rest, toks, h => by
    intro P
    simp only [wfKids, Bool.and_eq_true] at h
    obtain ⟨⟨⟨hm, hslot⟩, hk⟩, hrest⟩ := h
    obtain ⟨C, _, _, hstk, _⟩ := tree_ok isMk hN k hk
    have h1 := tree_balance isMk hN k hk P
    have h2 := kids_balance isMk hN rest toks hrest P
    have h3 := countP_blockOf nl (mergeTok k) hstk P
    simp only [kidBlocks, List.map_cons, List.sum_cons, lostKids, gainedKids, markersOf, List.countP_cons, List.countP_append]
    omega
end

/-! ### ring closures and bonds (Spec level: no well-formedness needed) -/

/-- ring closures of an event list, counted at their opening events -/
def ringOpens (es : List Ev) : Nat := es.countP (fun e => match e with | .ropen _ _ _ => true | _ => false)

theorem ringOpens_map (f : Nat → Nat) (es : List Ev) : ringOpens (es.map (Ev.map f)) = ringOpens es := by
  rw [ringOpens, List.countP_map]
  exact congrArg (List.countP · es) (funext fun e => by cases e <;> rfl)

theorem ringOpens_append (a b : List Ev) : ringOpens (a ++ b) = ringOpens a + ringOpens b := by
  simp [ringOpens, List.countP_append]

/-- events `c`, renumbered, put between `a` and `b` (renumbered): nothing is lost, nothing is added -/
theorem evs_insert (a b c : List Ev) (f g : Nat → Nat) :
    (a ++ c.map (Ev.map f) ++ b.map (Ev.map g)).length = (a ++ b).length + c.length ∧
    ringOpens (a ++ c.map (Ev.map f) ++ b.map (Ev.map g)) = ringOpens (a ++ b) + ringOpens c := by
  simp only [List.length_append, List.length_map, ringOpens_append, ringOpens_map]
  omega

theorem graft_evs (P : Mol) (i : Nat) (C : Mol) :
    (P.graft i C).evs.length = P.evs.length + C.evs.length ∧ ringOpens (P.graft i C).evs = ringOpens P.evs + ringOpens C.evs := by
  have := evs_insert (P.evs.take (P.evs.findIdx (isBondTo i) + 1)) (P.evs.drop (P.evs.findIdx (isBondTo i) + 1)) C.evs
  rw [List.take_append_drop] at this
  exact this _ _

mutual
/-- number of ring closures the residues have, one by one (`treeBonds` below: of bond events) -/
def treeRings : TNode → Nat
  | .mk toks kids => (match sem toks with | some M => ringOpens M.evs | none => 0) + kidsRings kids
def kidsRings : List (Atom × Bool × TNode) → Nat
  | [] => 0
  | (_, _, k) :: rest => treeRings k + kidsRings rest
end

mutual
def treeBonds : TNode → Nat
  | .mk toks kids => (match sem toks with | some M => M.evs.length | none => 0) + kidsBonds kids
def kidsBonds : List (Atom × Bool × TNode) → Nat
  | [] => 0
  | (_, _, k) :: rest => treeBonds k + kidsBonds rest
end

mutual
theorem spec_rings : (t : TNode) → (M : Mol) → specTree t = some M →
    ringOpens M.evs = treeRings t ∧ M.evs.length = treeBonds t
  | .mk toks kids, M, h => by
    obtain ⟨P, hs, h⟩ := Option.bind_eq_some_iff.mp h
    have := kids_rings kids P M h
    simp only [treeRings, treeBonds, hs]; omega
theorem kids_rings : (kids : List (Atom × Bool × TNode)) → (P M : Mol) → specKids kids P = some M →
    ringOpens M.evs = ringOpens P.evs + kidsRings kids ∧ M.evs.length = P.evs.length + kidsBonds kids
  | [], _, _, rfl => ⟨rfl, rfl⟩
  | (m, nl, k) :: rest, P, M, h => by
    obtain ⟨C, hk, h⟩ := Option.bind_eq_some_iff.mp h
    have h1 := spec_rings k C hk
    have h2 := kids_rings rest _ M h
    have h3 := graft_evs P (P.atoms.idxOf m) (if nl then nCap C else C)
    have h4 : (if nl then nCap C else C).evs = C.evs := by cases nl <;> rfl
    rw [h4] at h3
    simp only [kidsRings, kidsBonds]; omega
end

end Gly.Smi
