import GlyProofs.Smiles.TreeTheorem
import GlyModel.Smiles.Tokenize
/-
  Soundness of the decidable certificates the driver evaluates on every real merge: one splice (`certifySplice`, the hypotheses of
  `graft`), a whole tree on the Model's strings (`certifyTree`) and on the strings the code itself produced (`certifyObserved`).
-/
namespace Gly.Smi
open Gly.Asm

theorem splitAtMarker_spec {sym : List Char} {ts pre post : List Tok} {a : Atom}
    (h : splitAtMarker sym ts = some (pre, a, post)) : ts = pre ++ [Tok.atom a] ++ post := by
  unfold splitAtMarker at h
  split at h
  case h_2 => exact nomatch h
  rename_i i hi
  have hlt : i < ts.length := by
    simpa using (List.mem_filter.mp (hi ▸ List.mem_singleton_self i : i ∈ markerIdxs sym ts)).1
  split at h
  case h_2 => exact nomatch h
  rename_i _ ha
  cases h
  have hg : ts[i] = Tok.atom a := by simpa [List.getD, hlt] using ha
  rw [List.append_assoc, List.singleton_append, ← hg, ← List.drop_eq_getElem_cons hlt, List.take_append_drop]

/-- **Certified splice.** Whenever the decidable certificate accepts a character-level splice (`me` with marker `sym`
    replaced by `block`, giving `result`), the graft theorem applies: the result is a SMILES whenever `me` is, its atoms
    are those of `me` with the marker atom replaced by the atoms of the block, and its bond events are those of `me` and of
    the block, renumbered – nothing else. -/
theorem certifySplice_sound (sym me block result : List Char) (h : certifySplice sym me block result = true) :
    ∃ pre post C' M c0 S c p,
      tokenize me = some (pre ++ [Tok.atom M] ++ post) ∧
      tokenize block = some (Tok.atom c0 :: C') ∧
      tokenize result = some (pre ++ (Tok.atom c0 :: C') ++ post) ∧
      run St.init pre = some S ∧ S.prev = some p ∧ run St.init (Tok.atom c0 :: C') = some c ∧
      ∀ A, run St.init (pre ++ [Tok.atom M] ++ post) = some A →
        ∃ B as es, run St.init (pre ++ (Tok.atom c0 :: C') ++ post) = some B ∧
          A.atoms = S.atoms ++ [M] ++ as ∧
          A.evs = S.evs ++ [Ev.bond p S.atoms.length S.pend] ++ es ∧
          B.atoms = S.atoms ++ c.atoms ++ as ∧
          B.evs = S.evs ++ [Ev.bond p S.atoms.length S.pend] ++ c.evs.map (Ev.map (· + S.atoms.length)) ++
                    es.map (Ev.map (ren S.atoms.length (c.atoms.length - 1))) ∧
          B.stack = A.stack.map (ren S.atoms.length (c.atoms.length - 1)) ∧
          B.opens = A.opens.map (shiftO (ren S.atoms.length (c.atoms.length - 1))) ∧
          B.pend = A.pend := by
  unfold certifySplice at h
  split at h
  case h_2 => exact nomatch h
  rename_i tme c0 C' tres hme hblock hres
  split at h
  case h_2 => exact nomatch h
  rename_i pre M post hsplit
  split at h
  case h_2 => exact nomatch h
  rename_i S c hS hc
  -- what is left of the certificate are the hypotheses of `graft`, as Booleans
  simp only [Bool.and_eq_true, List.isEmpty_iff, Option.isNone_iff_eq_none, List.all_eq_true, beq_iff_eq] at h
  obtain ⟨⟨⟨⟨⟨⟨hprev, hleaf⟩, hcs⟩, hco⟩, hcp⟩, hlab⟩, rfl⟩ := h
  obtain ⟨p, hp⟩ := Option.isSome_iff_exists.mp hprev
  rw [splitAtMarker_spec hsplit] at hme
  exact ⟨pre, post, C', M, c0, S, c, p, hme, hblock, hres, hS, hp, hc, fun A hA =>
    graft pre post C' M c0 S A c p hS hp hA (LeafPost.of_isLeafPost hleaf) hc ⟨hcs, hco, hcp⟩ hlab⟩

theorem isMkDummy_N : isMkDummy ['N'] = false := by decide +kernel

/-- **Soundness of the whole-merge certificate** the driver evaluates on every real `merge_int` tree: what the
    character-level Model returns denotes the Spec molecule of the tree of boundary strings, and no marker atom is in it. -/
theorem certifyTree_sound (fuel : Nat) (node : Node) (h : certifyTree fuel node = true) :
    ∃ t out to M, toTNode fuel node 0 = some t ∧ mergeInt fuel node 0 = .ok out ∧ tokenize out = some to ∧
      sem to = some M ∧ specTree t = some M ∧ ∀ a ∈ M.atoms, isMkDummy a = false := by
  unfold certifyTree at h
  split at h
  · rename_i t out ht ho
    cases hto : tokenize out with
    | none => simp [hto] at h
    | some to =>
      obtain ⟨M, hM⟩ := treeCert_sound (t := t) (to := to) isMkDummy_N (by simpa [hto, Bool.and_assoc] using h)
      exact ⟨t, out, to, M, ht, ho, hto, hM⟩
  · cases h

/-- **Soundness of the certificate on observed strings**: if the strings `Monomer.to_smiles` returned inside a real
    `merge_int` pass the check, the string `merge_int` returned denotes `specTree` of those strings and holds no marker. -/
theorem certifyObserved_sound (node : ONode) (out : List Char) (h : certifyObserved node out = true) :
    ∃ t to M, obsTNode node = some t ∧ tokenize out = some to ∧
      sem to = some M ∧ specTree t = some M ∧ ∀ a ∈ M.atoms, isMkDummy a = false := by
  unfold certifyObserved at h
  split at h
  · rename_i t to ht hto
    obtain ⟨M, hM⟩ := treeCert_sound isMkDummy_N h
    exact ⟨t, to, M, ht, hto, hM⟩
  · cases h

end Gly.Smi
