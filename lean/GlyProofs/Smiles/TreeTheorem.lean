import GlyProofs.Smiles.TreeLemmas
/-
  Whole-tree assembly theorem: for every tree of boundary strings that passes the decidable check `wfTree`, the merged
  token string denotes exactly the Spec molecule (`specTree`), contains no marker atom, and starts with an atom.
-/
namespace Gly.Smi

/-- what the induction establishes for one subtree -/
def TreeOK (isMk : Atom → Bool) (t : TNode) : Prop :=
  ∃ M, sem (mergeTok t) = some M ∧ specTree t = some M ∧ startsWithAtom (mergeTok t) = true ∧
    ∀ a, isMk a = true → Tok.atom a ∉ mergeTok t

theorem TreeOK.markerFree {isMk : Atom → Bool} {t : TNode} (h : TreeOK isMk t) : ∀ a, isMk a = true → Tok.atom a ∉ mergeTok t :=
  let ⟨_, _, _, _, hfree⟩ := h; hfree

def substAll : List (Atom × List Tok) → List Tok → List Tok
  | [], ts => ts
  | (m, b) :: rest, ts => substAll rest (substTok m b ts)

def kidBlocks : List (Atom × Bool × TNode) → List (Atom × List Tok)
  | [] => []
  | (m, nl, k) :: rest => (m, blockOf nl (mergeTok k)) :: kidBlocks rest

theorem mergeKidsTok_eq (kids : List (Atom × Bool × TNode)) (ts : List Tok) :
    mergeKidsTok kids ts = substAll (kidBlocks kids) ts := by
  fun_induction kidBlocks kids generalizing ts <;> simp only [mergeKidsTok, substAll, *]

theorem kidBlocks_eq_map (kids : List (Atom × Bool × TNode)) :
    kidBlocks kids = kids.map (fun kid => (kid.1, blockOf kid.2.1 (mergeTok kid.2.2))) := by
  fun_induction kidBlocks kids <;> simp [*]

theorem markersOf_eq_map (kids : List (Atom × Bool × TNode)) : markersOf kids = kids.map (·.1) := by
  fun_induction markersOf kids <;> simp [*]

theorem nodupB_pairwise {l : List Atom} (h : nodupB l = true) : l.Pairwise (· ≠ ·) := by
  induction l with
  | nil => exact List.Pairwise.nil
  | cons a as ih =>
    simp only [nodupB, Bool.and_eq_true, Bool.not_eq_true', List.contains_eq_mem, decide_eq_false_iff_not] at h
    exact List.Pairwise.cons (fun b hb e => h.1 (e ▸ hb)) (ih h.2)

theorem wfTree_mk {isMk : Atom → Bool} {toks : List Tok} {kids : List (Atom × Bool × TNode)}
    (h : wfTree isMk (.mk toks kids) = true) :
    (∃ A, run St.init toks = some A ∧ A.closed = true) ∧ startsWithAtom toks = true ∧ (markersOf kids).Pairwise (· ≠ ·) ∧
    (∀ a, isMk a = true → Tok.atom a ∈ toks → a ∈ markersOf kids) ∧ wfKids isMk kids toks = true := by
  simp only [wfTree, Bool.and_eq_true] at h
  obtain ⟨⟨⟨⟨hsem, hst⟩, hnd⟩, hall⟩, hk⟩ := h
  obtain ⟨P, hP⟩ := Option.isSome_iff_exists.mp hsem
  obtain ⟨A, hA, hAc, _⟩ := sem_eq_some.mp hP
  exact ⟨⟨A, hA, hAc⟩, hst, nodupB_pairwise hnd, fun a ha hm => List.contains_iff_mem.mp
    (List.all_eq_true.mp hall a (List.mem_filter.mpr ⟨mem_atomsOf.mpr hm, ha⟩)), hk⟩

/-- what splicing all children `kids` into the string `ts` (which ran to `A`) gives -/
structure Spliced (isMk : Atom → Bool) (kids : List (Atom × Bool × TNode)) (ts : List Tok) (A B : St) : Prop where
  run : run St.init (mergeKidsTok kids ts) = some B
  closed : B.closed = A.closed
  spec : specKids kids A.mol = some B.mol
  head : startsWithAtom (mergeKidsTok kids ts) = true
  markers : ∀ a, isMk a = true → Tok.atom a ∈ mergeKidsTok kids ts → Tok.atom a ∈ ts ∧ a ∉ markersOf kids
  count : ∀ P : Atom → Bool, (atomsOf (mergeKidsTok kids ts)).countP P + (markersOf kids).countP P =
    (atomsOf ts).countP P + ((kidBlocks kids).map fun x => (atomsOf x.2).countP P).sum

/-- **All children of one residue.** Every child is an assembled subtree (`TreeOK`) whose marker has a slot in the residue's
    string `ts`, the markers are pairwise different marker atoms: then splicing all of them in – in the order of the list –
    yields a SMILES denoting the residue's molecule with every child grafted at its marker (`specKids`); the only marker atoms
    left are those of `ts` that belong to no child; and the atoms are those of `ts` and of the blocks, minus the markers. -/
theorem kids_loop (isMk : Atom → Bool) (hN : isMk ['N'] = false) :
    ∀ (kids : List (Atom × Bool × TNode)) (ts : List Tok) (A : St), run St.init ts = some A → startsWithAtom ts = true →
    (∀ kid ∈ kids, isMk kid.1 = true ∧ Slot ts kid.1 (labelsOf (mergeTok kid.2.2)) ∧ TreeOK isMk kid.2.2) →
    (markersOf kids).Pairwise (· ≠ ·) → ∃ B, Spliced isMk kids ts A B
  | [], ts, A, hA, hst, _, _ =>
    ⟨A, hA, rfl, rfl, hst, fun a _ hm => ⟨hm, by simp [markersOf]⟩, fun P => by simp [mergeKidsTok, markersOf, kidBlocks]⟩
  | (m, nl, k) :: rest, ts, A, hA, hst, hk, hpw => by
    obtain ⟨⟨hm, hslot, C, hsemk, hspeck, hstk, hfreek⟩, hk⟩ := List.forall_mem_cons.mp hk
    have hblk := blockOK_blockOf nl (blockOK_of_sem hsemk hstk)
    have hfreeb := markerFree_blockOf hN nl hfreek
    rw [← labelsOf_blockOf nl hstk] at hslot
    obtain ⟨B1, hB1, hcl1, hmol1⟩ := splice_one ts A m _ _ hA hslot hblk
    simp only [markersOf, List.pairwise_cons] at hpw
    -- the other children keep their slots in the spliced string
    obtain ⟨B, h⟩ := kids_loop isMk hN rest _ B1 hB1 (startsWithAtom_substTok hslot hst)
      (fun kid hkid => by
        obtain ⟨h1, h2, h3⟩ := hk kid hkid
        have hne : kid.1 ≠ m := fun e => hpw.1 kid.1 (markersOf_eq_map rest ▸ List.mem_map_of_mem hkid) e.symm
        exact ⟨h1, slot_preserved ts kid.1 m _ _ _ hne h2 hslot hblk (hfreeb kid.1 h1), h3⟩)
      hpw.2
    refine ⟨B, h.run, h.closed.trans hcl1, by simp only [specKids, hspeck, Option.bind_some]; exact hmol1 ▸ h.spec, h.head,
      fun a ha hmem => ?_, fun P => ?_⟩
    · obtain ⟨h1, h2⟩ := h.markers a ha hmem
      rcases mem_substTok h1 with ⟨h3, h4⟩ | h3
      · exact ⟨h3, by simpa [markersOf, h2] using fun (e : a = m) => h4 (by rw [e])⟩
      · exact absurd h3 (hfreeb a ha)
    · have h1 := h.count P
      have h2 := splice_atoms (blockOf nl (mergeTok k)) hslot P
      simp only [mergeKidsTok, markersOf, kidBlocks, List.map_cons, List.sum_cons, List.countP_cons, List.countP_nil] at h1 h2 ⊢
      omega

mutual
theorem tree_ok (isMk : Atom → Bool) (hN : isMk ['N'] = false) : (t : TNode) → wfTree isMk t = true → TreeOK isMk t
  | .mk toks kids, h => by
    obtain ⟨⟨A, hA, hAc⟩, hst, hpw, hall, hk⟩ := wfTree_mk h
    obtain ⟨B, hB⟩ := kids_loop isMk hN kids toks A hA hst (kids_ok isMk hN kids toks hk) hpw
    refine ⟨B.mol, sem_eq_some.mpr ⟨B, hB.run, hB.closed.trans hAc, rfl⟩, ?_, hB.head, fun a ha hm => ?_⟩
    · simp only [specTree, sem_eq_some.mpr ⟨A, hA, hAc, rfl⟩, Option.bind_some]; exact hB.spec
    · obtain ⟨h1, h2⟩ := hB.markers a ha hm
      exact h2 (hall a ha h1)
/-- what `wfKids` says of every child, with the subtree already assembled -/
theorem kids_ok (isMk : Atom → Bool) (hN : isMk ['N'] = false) :
    (kids : List (Atom × Bool × TNode)) → (toks : List Tok) → wfKids isMk kids toks = true →
    ∀ kid ∈ kids, isMk kid.1 = true ∧ Slot toks kid.1 (labelsOf (mergeTok kid.2.2)) ∧ TreeOK isMk kid.2.2
  | [], _, _ => fun _ h => nomatch h
  | (m, nl, k) :: rest, toks, h => by
    simp only [wfKids, Bool.and_eq_true] at h
    obtain ⟨⟨⟨hm, hslot⟩, hk⟩, hrest⟩ := h
    exact List.forall_mem_cons.mpr ⟨⟨hm, .of_slotOK hslot, tree_ok isMk hN k hk⟩, kids_ok isMk hN rest toks hrest⟩
end

/-- the blocks of a well-formed residue's children: each replaces a marker atom and holds none -/
theorem kidBlocks_ok (isMk : Atom → Bool) (hN : isMk ['N'] = false) {kids : List (Atom × Bool × TNode)} {toks : List Tok}
    (hwf : wfTree isMk (.mk toks kids) = true) :
    ∀ it ∈ kidBlocks kids, isMk it.1 = true ∧ ∀ a, isMk a = true → Tok.atom a ∉ it.2 := by
  obtain ⟨_, _, _, _, hk⟩ := wfTree_mk hwf
  rw [kidBlocks_eq_map]
  intro it hit
  obtain ⟨kid, hkid, rfl⟩ := List.mem_map.mp hit
  obtain ⟨hm, _, hok⟩ := kids_ok isMk hN kids toks hk kid hkid
  exact ⟨hm, markerFree_blockOf hN _ hok.markerFree⟩

theorem sem_markerFree {isMk : Atom → Bool} {ts : List Tok} {M : Mol} (hsem : sem ts = some M)
    (hfree : ∀ a, isMk a = true → Tok.atom a ∉ ts) : ∀ a ∈ M.atoms, isMk a = false := by
  obtain ⟨s, hr, _, rfl⟩ := sem_eq_some.mp hsem
  intro a ha
  rw [St.mol, run_init_atoms hr, mem_atomsOf] at ha
  exact Bool.eq_false_iff.mpr fun hmk => hfree a hmk ha

/-- **The assembled string denotes the Spec molecule, and no marker atom is in it** – what every certificate rests on. -/
theorem tree_sound (isMk : Atom → Bool) (hN : isMk ['N'] = false) (t : TNode) (h : wfTree isMk t = true) :
    ∃ M, sem (mergeTok t) = some M ∧ specTree t = some M ∧ ∀ a ∈ M.atoms, isMk a = false := by
  obtain ⟨M, hsem, hspec, _, hfree⟩ := tree_ok isMk hN t h
  exact ⟨M, hsem, hspec, sem_markerFree hsem hfree⟩

/-- the check every whole-tree certificate ends in -/
theorem treeCert_sound {isMk : Atom → Bool} (hN : isMk ['N'] = false) {t : TNode} {to : List Tok}
    (h : (wfTree isMk t && (sem to).isSome && sem to == sem (mergeTok t)) = true) :
    ∃ M, sem to = some M ∧ specTree t = some M ∧ ∀ a ∈ M.atoms, isMk a = false := by
  simp only [Bool.and_eq_true, beq_iff_eq] at h
  obtain ⟨M, hsem, hspec, hfree⟩ := tree_sound isMk hN t h.1.1
  exact ⟨M, h.2 ▸ hsem, hspec, hfree⟩

end Gly.Smi
