import GlyProofs.Smiles.TreeTheorem
/-
  Changing the text of one atom of a residue (e.g. the stereo mark of the reducing end's anomeric carbon) changes exactly that
  atom of the whole glycan's Spec molecule: same bond events, same atoms everywhere else – whatever is grafted onto the residue.
-/
namespace Gly.Smi

/-- two molecules with the same bond events whose atom lists differ in exactly one position (`a` there in the first, `b` in the second) -/
def OneOff (a b : Atom) (P P' : Mol) : Prop :=
  P.evs = P'.evs ∧ ∃ pre post, P.atoms = pre ++ [a] ++ post ∧ P'.atoms = pre ++ [b] ++ post

theorem idxOf_mid {m a : Atom} (pre post : List Atom) (h : m ≠ a) :
    (pre ++ [a] ++ post).idxOf m = if m ∈ pre then pre.idxOf m else pre.length + 1 + post.idxOf m := by
  have : (a == m) = false := by simpa using fun e => h e.symm
  simp only [List.append_assoc, List.idxOf_append, List.singleton_append, List.idxOf_cons, this, cond_false]
  split <;> omega

/-- grafting a child at a marker that is not the differing atom keeps the two molecules one-off -/
theorem graft_oneOff (a b m : Atom) (P P' C : Mol) (h : OneOff a b P P') (ha : m ≠ a) (hb : m ≠ b) :
    OneOff a b (P.graft (P.atoms.idxOf m) C) (P'.graft (P'.atoms.idxOf m) C) := by
  obtain ⟨hev, pre, post, hP, hP'⟩ := h
  rw [show P'.atoms.idxOf m = P.atoms.idxOf m by rw [hP, hP', idxOf_mid pre post ha, idxOf_mid pre post hb]]
  refine ⟨by simp only [Mol.graft, hev], ?_⟩
  simp only [Mol.graft, hP, hP', idxOf_mid pre post ha]
  split
  · -- the marker stands before the differing atom
    rename_i hm
    have hlt := List.idxOf_lt_length_iff.mpr hm
    refine ⟨pre.take (pre.idxOf m) ++ C.atoms ++ pre.drop (pre.idxOf m + 1), post, ?_, ?_⟩ <;>
      simp only [List.append_assoc, List.take_append_of_le_length (Nat.le_of_lt hlt), List.drop_append_of_le_length hlt]
  · -- … or after it
    have e : ∀ k, pre.length + 1 + k = (pre ++ [a]).length + k ∧ pre.length + 1 + k = (pre ++ [b]).length + k := by simp
    refine ⟨pre, post.take (post.idxOf m) ++ C.atoms ++ post.drop (post.idxOf m + 1), ?_, ?_⟩
    · rw [(e _).1, Nat.add_assoc, List.take_length_add_append, List.drop_length_add_append]; simp
    · rw [(e _).2, Nat.add_assoc, List.take_length_add_append, List.drop_length_add_append]; simp

/-- `graft_oneOff` child by child -/
theorem specKids_oneOff (a b : Atom) : ∀ (kids : List (Atom × Bool × TNode)) (P P' R : Mol),
    OneOff a b P P' → (∀ m ∈ markersOf kids, m ≠ a ∧ m ≠ b) → specKids kids P = some R →
    ∃ R', specKids kids P' = some R' ∧ OneOff a b R R'
  | [], _, P', _, h, _, rfl => ⟨P', rfl, h⟩
  | (m, nl, k) :: rest, P, P', R, h, hm, hs => by
    obtain ⟨C, hk, hs⟩ := Option.bind_eq_some_iff.mp hs
    obtain ⟨hmm, hrest⟩ := List.forall_mem_cons.mp hm
    simp only [specKids, hk, Option.bind_some]
    exact specKids_oneOff a b rest _ _ R (graft_oneOff a b m P P' _ h hmm.1 hmm.2) hrest hs

/-- **One atom of a residue, one atom of the glycan.** Two residue strings that are equal except for the text of one atom token
    (`a` / `b`: e.g. `[C@H]`, `[C@@H]` or `C` at the anomeric carbon of the reducing end), carrying the same children at the same
    markers: the two Spec molecules have the same bond events – hence the same bonds, ring closures and ordered neighbour
    lists – and the same atoms except exactly that one. -/
theorem specTree_oneOff (t1 t2 : List Tok) (a b : Atom) (kids : List (Atom × Bool × TNode)) (M : Mol)
    (hm : ∀ m ∈ markersOf kids, m ≠ a ∧ m ≠ b)
    (hs : specTree (.mk (t1 ++ [Tok.atom a] ++ t2) kids) = some M) :
    ∃ M', specTree (.mk (t1 ++ [Tok.atom b] ++ t2) kids) = some M' ∧ OneOff a b M M' := by
  obtain ⟨P, hP, hs⟩ := Option.bind_eq_some_iff.mp hs
  obtain ⟨x, hx, hxc, rfl⟩ := sem_eq_some.mp hP
  have hshape : ShapeList (t1 ++ [Tok.atom a] ++ t2) (t1 ++ [Tok.atom b] ++ t2) :=
    ((ShapeList.refl t1).append (.cons (.inr ⟨a, b, rfl, rfl⟩) .nil)).append (.refl t2)
  obtain ⟨x', hx', e⟩ := run_shape hshape ⟨rfl, rfl, rfl, rfl, rfl, rfl⟩ hx
  have hc' : x'.closed = true := by simpa [St.closed, e.stack, e.pend, e.opens] using hxc
  have hoff : OneOff a b x.mol x'.mol :=
    ⟨e.evs.symm, atomsOf t1, atomsOf t2, by simp [St.mol, run_init_atoms hx, atomsOf_append, atomsOf],
      by simp [St.mol, run_init_atoms hx', atomsOf_append, atomsOf]⟩
  obtain ⟨R', hR', hoff'⟩ := specKids_oneOff a b kids _ _ M hoff hm hs
  exact ⟨R', by simp only [specTree, sem_eq_some.mpr ⟨x', hx', hc', rfl⟩, Option.bind_some]; exact hR', hoff'⟩

end Gly.Smi
