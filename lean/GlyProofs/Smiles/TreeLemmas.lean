import GlyProofs.Smiles.Graft
/-
  Lemmas for the whole-tree assembly theorem: token substitution, slots, the Mol-level reading of the graft lemma,
  the N-linkage block, preservation of slots under splices at other markers.
-/
namespace Gly.Smi

theorem substTok_append (m : Atom) (b : List Tok) (x y : List Tok) :
    substTok m b (x ++ y) = substTok m b x ++ substTok m b y := by
  simp [substTok, List.flatMap_append]

theorem substTok_cons (m : Atom) (b : List Tok) (t : Tok) (ts : List Tok) :
    substTok m b (t :: ts) = (if t = Tok.atom m then b else [t]) ++ substTok m b ts := rfl

theorem substTok_single (m : Atom) (b : List Tok) (x : Tok) :
    substTok m b [x] = if x = Tok.atom m then b else [x] := by
  simp [substTok]

theorem substTok_id {m : Atom} (b : List Tok) {ts : List Tok} (h : Tok.atom m ∉ ts) : substTok m b ts = ts := by
  induction ts with
  | nil => rfl
  | cons t ts ih =>
    rw [substTok_cons, if_neg (fun e => h (by simp [e])), ih (fun hm => h (by simp [hm]))]; rfl

theorem substTok_split {m : Atom} {b pre post : List Tok} (h1 : Tok.atom m ∉ pre) (h2 : Tok.atom m ∉ post) :
    substTok m b (pre ++ [Tok.atom m] ++ post) = pre ++ b ++ post := by
  rw [substTok_append, substTok_append, substTok_id b h1, substTok_id b h2, substTok_cons, if_pos rfl]; simp [substTok]

theorem mem_substTok {m : Atom} {b ts : List Tok} {t : Tok} (h : t ∈ substTok m b ts) : (t ∈ ts ∧ t ≠ Tok.atom m) ∨ t ∈ b := by
  obtain ⟨x, hx, ht⟩ := List.mem_flatMap.mp h
  split at ht
  · exact Or.inr ht
  · rename_i hxm; rw [List.mem_singleton] at ht; subst ht; exact Or.inl ⟨hx, hxm⟩

theorem atomsOf_append (x y : List Tok) : atomsOf (x ++ y) = atomsOf x ++ atomsOf y := by
  fun_induction atomsOf x <;> simp [atomsOf, *]

theorem labelsOf_append (x y : List Tok) : labelsOf (x ++ y) = labelsOf x ++ labelsOf y := by
  fun_induction labelsOf x <;> simp [labelsOf, *]

theorem startsWithAtom_iff {ts : List Tok} : startsWithAtom ts = true ↔ ∃ a rest, ts = Tok.atom a :: rest := by
  cases ts with
  | nil => simp [startsWithAtom]
  | cons t rest => cases t <;> simp [startsWithAtom]

/-- what may follow a leaf atom: the end of the string or a closing parenthesis (`isLeafPost` as a proposition) -/
def LeafPost (post : List Tok) : Prop := post = [] ∨ ∃ post', post = Tok.rpar :: post'

/-- The marker `m` sits exactly once in `ts`, on a leaf atom that has a parent atom, and no label of `L` is open there. -/
def Slot (ts : List Tok) (m : Atom) (L : List Nat) : Prop :=
  ∃ pre post S p, ts = pre ++ [Tok.atom m] ++ post ∧ Tok.atom m ∉ pre ∧ Tok.atom m ∉ post ∧ LeafPost post ∧
    run St.init pre = some S ∧ S.prev = some p ∧ ∀ l ∈ L, lookupLabel l S.opens = none

theorem LeafPost.of_isLeafPost {post : List Tok} (h : isLeafPost post = true) : LeafPost post := by
  cases post with
  | nil => exact Or.inl rfl
  | cons t ts => cases t <;> simp [isLeafPost] at h; exact Or.inr ⟨ts, rfl⟩

theorem Slot.of_slotOK {ts : List Tok} {m : Atom} {L : List Nat} (h : slotOK ts m L = true) : Slot ts m L := by
  unfold slotOK at h
  have hsplit := List.takeWhile_append_dropWhile (p := (· != Tok.atom m)) (l := ts)
  cases hd : ts.dropWhile (· != Tok.atom m) with
  | nil => simp [hd] at h
  | cons x post =>
    have hx : x = Tok.atom m := by simpa [hd] using List.head_dropWhile_not (· != Tok.atom m) (l := ts) (by simp [hd])
    subst hx
    simp only [hd] at h hsplit
    cases hr : run St.init (ts.takeWhile (· != Tok.atom m)) with
    | none => simp [hr] at h
    | some S =>
      simp only [hr, Bool.and_eq_true, Bool.not_eq_true', List.all_eq_true, Option.isNone_iff_eq_none] at h
      obtain ⟨⟨hnc, hleaf⟩, hprev, hlab⟩ := h
      obtain ⟨p, hp⟩ := Option.isSome_iff_exists.mp hprev
      refine ⟨_, post, S, p, by simpa using hsplit.symm, fun hm => ?_, fun hm => ?_, LeafPost.of_isLeafPost hleaf, hr, hp, hlab⟩
      · simpa using List.all_eq_true.mp List.all_takeWhile _ hm
      · rw [List.contains_iff_mem.mpr hm] at hnc; cases hnc

/-- The two orders in which two different elements can stand in a list. -/
theorem two_splits {α} {x y : α} (hne : x ≠ y) {pre post pre' post' : List α}
    (h : pre ++ [x] ++ post = pre' ++ [y] ++ post') :
    (∃ mid, post = mid ++ [y] ++ post' ∧ pre' = pre ++ [x] ++ mid) ∨
    (∃ mid, pre = pre' ++ [y] ++ mid ∧ post' = mid ++ [x] ++ post) := by
  simp only [List.append_assoc, List.singleton_append] at h ⊢
  rcases List.append_eq_append_iff.mp h with ⟨as, e1, e2⟩ | ⟨bs, e1, e2⟩
  · cases as with
    | nil => simp at e2; exact absurd e2.1 hne
    | cons a as => simp at e2; exact Or.inl ⟨as, e2.2, by simp [e1, e2.1]⟩
  · cases bs with
    | nil => simp at e2; exact absurd e2.1.symm hne
    | cons b bs => simp at e2; exact Or.inr ⟨bs, by simp [e1, e2.1], e2.2⟩

/-! ### the graft lemma read at the level of molecules -/

/-- A closed block: starts with an atom, runs on its own to a state with nothing open, and denotes `C`. -/
def BlockOK (block : List Tok) (C : Mol) : Prop :=
  ∃ c0 C' c, block = Tok.atom c0 :: C' ∧ run St.init block = some c ∧ c.stack = [] ∧ c.opens = [] ∧ c.pend = none ∧ c.mol = C

theorem blockOK_of_sem {block : List Tok} {C : Mol} (h : sem block = some C) (hs : startsWithAtom block = true) :
    BlockOK block C := by
  obtain ⟨s, hr, hc, hm⟩ := sem_eq_some.mp h
  obtain ⟨h1, h2, h3⟩ := closed_parts hc
  obtain ⟨a, rest, rfl⟩ := startsWithAtom_iff.mp hs
  exact ⟨a, rest, s, rfl, hr, h1, h2, h3, hm⟩

theorem findIdx_of_all_false {α} (p : α → Bool) (l : List α) (h : ∀ x ∈ l, p x = false) : l.findIdx p = l.length :=
  List.findIdx_eq_length_of_false h

/-- **One splice, read as molecules.** If the marker `m` has a slot in `ts` and `block` is a closed block denoting `C`,
    then substituting the block for the marker gives a SMILES that denotes `graft` of `C` at the marker atom. -/
theorem splice_one (ts : List Tok) (A : St) (m : Atom) (block : List Tok) (C : Mol)
    (hA : run St.init ts = some A) (hs : Slot ts m (labelsOf block)) (hb : BlockOK block C) :
    ∃ B, run St.init (substTok m block ts) = some B ∧ B.closed = A.closed ∧
      B.mol = A.mol.graft (A.atoms.idxOf m) C := by
  obtain ⟨pre, post, S, p, rfl, hm1, hm2, hleaf, hpre, hp, hlab⟩ := hs
  obtain ⟨c0, C', c, rfl, hc, hcs, hco, hcp, rfl⟩ := hb
  obtain ⟨B, as, es, hB, ea, ee, fa, fe, fs, fo, fp⟩ :=
    graft pre post C' m c0 S A c p hpre hp hA hleaf hc ⟨hcs, hco, hcp⟩ hlab   -- `labelsOf (.atom c0 :: C')` is `labelsOf C'`
  refine ⟨B, by rw [substTok_split hm1 hm2]; exact hB, St.closed_of_map fs fo fp, ?_⟩
  -- the marker atom is atom number |S.atoms| and the bond that introduces it is event number |S.evs|
  have hmS : m ∉ S.atoms := by simpa [run_init_atoms hpre, mem_atomsOf] using hm1
  have hidx : (S.atoms ++ [m] ++ as).idxOf m = S.atoms.length := by simp [List.idxOf_append, hmS]
  have hnone : ∀ e ∈ S.evs, isBondTo S.atoms.length e = false := fun e he =>
    Bool.eq_false_iff.mpr fun hbt => Nat.lt_irrefl _ ((run_inRange hpre).bondTo e he _ hbt)
  have hfind : (S.evs ++ [Ev.bond p S.atoms.length S.pend] ++ es).findIdx (isBondTo S.atoms.length) = S.evs.length := by
    simp [List.findIdx_append, List.findIdx_eq_length_of_false hnone, List.findIdx_cons, isBondTo]
  simp only [St.mol, Mol.graft, ea, ee, hidx, hfind]
  simp [fa, fe, List.take_length_add_append]

/-! ### the N-linkage block `N(` child without its first atom `)` -/

/-- If `c0 C'` is a closed block denoting `C`, then `N ( C' )` is a closed block denoting `C` with its first atom replaced by
    `N` (`nCap`): the same bond events, the same atom numbering. -/
theorem nblock (block : List Tok) (C : Mol) (hb : BlockOK block C) : BlockOK (blockOf true block) (nCap C) := by
  obtain ⟨c0, C', c, rfl, hc, hcs, hco, hcp, rfl⟩ := hb
  -- the block's own run after its first atom; the same run after an `N` instead writes the same events (`run_shape`),
  -- also above the branch point that `N(` leaves on the stack (`run_stackFrame`)
  have hc' : run (.one c0) C' = some c := run_atom_init c0 C' ▸ hc
  obtain ⟨c1, hc1, e⟩ := run_shape (.refl C') (s := .one c0) (s' := .one ['N']) ⟨rfl, rfl, rfl, rfl, rfl, rfl⟩ hc'
  have hfr := run_stackFrame C' _ c1 [0] hc1
  refine ⟨['N'], Tok.lpar :: (C' ++ [Tok.rpar]), { c1 with prev := some 0 }, by simp [blockOf], ?_, by simp [e.stack, hcs],
    by simp [e.opens, hco], by simp [e.pend, hcp], ?_⟩
  · simp only [blockOf, if_true, List.drop_one, List.tail_cons, run_cons, step, St.init, Option.bind_some]
    exact (run_append _ C' [Tok.rpar]).trans (by simp [St.one] at hfr; simp [hfr, run, step, e.stack, hcs, e.pend, hcp])
  · simp [St.mol, nCap, e.evs, run_atoms hc', run_atoms hc1, St.one]

theorem labelsOf_blockOf (nl : Bool) {child : List Tok} (hs : startsWithAtom child = true) :
    labelsOf (blockOf nl child) = labelsOf child := by
  obtain ⟨a, rest, rfl⟩ := startsWithAtom_iff.mp hs
  cases nl <;> simp [blockOf, labelsOf, labelsOf_append]

theorem markerFree_blockOf {isMk : Atom → Bool} (hN : isMk ['N'] = false) (nl : Bool) {child : List Tok}
    (h : ∀ a, isMk a = true → Tok.atom a ∉ child) : ∀ a, isMk a = true → Tok.atom a ∉ blockOf nl child := by
  intro a ha hm
  cases nl with
  | false => exact h a ha hm
  | true =>
    -- `N ( child[1:] )`: `N` is no marker, a parenthesis is no atom
    simp [blockOf] at hm
    rcases hm with rfl | hm
    · rw [hN] at ha; cases ha
    · exact h a ha (List.mem_of_mem_tail hm)

theorem blockOK_blockOf (nl : Bool) {child : List Tok} {C : Mol} (hb : BlockOK child C) :
    BlockOK (blockOf nl child) (if nl then nCap C else C) := by
  cases nl with
  | false => simpa [blockOf] using hb
  | true => simpa using nblock child C hb

/-! ### a splice at one marker keeps the slots of the other markers -/

/-- a leaf tail that holds an atom is not empty, so it starts with `)` – and so does `a ++ b` for any `b` -/
theorem LeafPost.of_append_atom {a : List Tok} {x : Atom} {r : List Tok} (h : LeafPost (a ++ [Tok.atom x] ++ r)) (b : List Tok) :
    LeafPost (a ++ b) := by
  cases a with
  | nil => rcases h with h | ⟨q, h⟩ <;> simp at h
  | cons t a' =>
    rcases h with h | ⟨q, h⟩
    · simp at h
    · simp at h; exact Or.inr ⟨a' ++ b, by rw [h.1]; rfl⟩

theorem slot_preserved (ts : List Tok) (m m' : Atom) (L : List Nat) (block' : List Tok) (C' : Mol)
    (hne : m ≠ m') (hs : Slot ts m L) (hs' : Slot ts m' (labelsOf block')) (hb : BlockOK block' C')
    (hfree : Tok.atom m ∉ block') :
    Slot (substTok m' block' ts) m L := by
  obtain ⟨pre, post, S, p, hts, hm1, hm2, hleaf, hpre, hp, hlab⟩ := hs
  obtain ⟨pre', post', S', p', hts', hm1', hm2', hleaf', hpre', hp', hlab'⟩ := hs'
  rw [hts', substTok_split hm1' hm2']
  have hswap : ∀ {u v : List Tok}, Tok.atom m ∉ u ++ [Tok.atom m'] ++ v → Tok.atom m ∉ u ++ block' ++ v := fun h hm => by
    simp only [List.mem_append, not_or] at h hm; exact hm.elim (·.elim h.1.1 hfree) h.2
  rcases two_splits (mt Tok.atom.inj hne) (hts.symm.trans hts') with ⟨mid, rfl, rfl⟩ | ⟨mid, rfl, rfl⟩
  · -- m' stands after m: the part before m is untouched
    exact ⟨pre, mid ++ block' ++ post', S, p, by simp, hm1, hswap hm2,
      by simpa using hleaf.of_append_atom (block' ++ post'), hpre, hp, hlab⟩
  · -- m' stands before m: the part before m becomes a graft, whose open labels are those of the original
    obtain ⟨c0, Cb, c, rfl, hc, hcs, hco, hcp, _⟩ := hb
    obtain ⟨B, _, _, hB, _, _, _, _, _, fo, _⟩ :=
      graft pre' mid Cb m' c0 S' S c p' hpre' hp' hpre (by simpa [LeafPost] using hleaf'.of_append_atom []) hc ⟨hcs, hco, hcp⟩ hlab'
    -- a current atom stays: an atom or a `)` sets it, the other tokens leave it alone
    obtain ⟨q, hq⟩ := Option.isSome_iff_exists.mp <|
      run_invariant (P := fun s => s.prev.isSome = true) (fun h hs => by cases hs with | atom | rpar => rfl | _ => exact h)
        (by simp [hp']) (by simpa [run_append, hpre'] using hB : run S' ((Tok.atom c0 :: Cb) ++ mid) = some B)
    exact ⟨pre' ++ (Tok.atom c0 :: Cb) ++ mid, post, B, q, by simp, hswap hm1, hm2, hleaf, hB, hq,
      fun l hl => by rw [fo, lookupLabel_map, hlab l hl]; rfl⟩

theorem startsWithAtom_substTok {ts : List Tok} {m : Atom} {L : List Nat} {b : List Tok} (hs : Slot ts m L) (h : startsWithAtom ts = true) :
    startsWithAtom (substTok m b ts) = true := by
  obtain ⟨pre, post, S, p, rfl, hm1, hm2, _, hpre, hp, _⟩ := hs
  cases pre with
  | nil => cases hpre; cases hp   -- nothing before the marker: no parent atom
  | cons x pre' =>
    rw [substTok_split hm1 hm2]
    cases x <;> simp [startsWithAtom] at h ⊢

/-- one splice: the marker atom goes, the block's atoms come -/
theorem splice_atoms {ts : List Tok} {m : Atom} {L : List Nat} (b : List Tok) (hs : Slot ts m L) (P : Atom → Bool) :
    (atomsOf (substTok m b ts)).countP P + [m].countP P = (atomsOf ts).countP P + (atomsOf b).countP P := by
  obtain ⟨pre, post, S, p, hts, hm1, hm2, _, _, _, _⟩ := hs
  rw [hts, substTok_split hm1 hm2]
  simp only [atomsOf_append, atomsOf, List.countP_append]
  omega

end Gly.Smi
