import GlyProofs.Smiles.TreeTheorem
import GlyProofs.ListLemmas
/-
  The written order of the branches is immaterial (C07), in two halves. The children of a residue may be processed in any order
  (`mergeTok_perm`). And the assembled string does not depend on *which* marker element stands for which child: renaming the markers
  of a residue (in its string and in its child list) by an injective map that only moves marker atoms gives the same result
  (`mergeTok_rename`). Writing the branches in another order does both: the k-th written child gets the k-th marker pair, so the
  children are permuted *and* their markers renamed.
-/
namespace Gly.Smi

/-- Splices at different markers commute (no block contains the other's marker). -/
theorem splices_commute (m1 m2 : Atom) (b1 b2 ts : List Tok) (hne : m1 ≠ m2)
    (h12 : Tok.atom m2 ∉ b1) (h21 : Tok.atom m1 ∉ b2) :
    substTok m1 b1 (substTok m2 b2 ts) = substTok m2 b2 (substTok m1 b1 ts) := by
  have hne' : Tok.atom m1 ≠ Tok.atom m2 := mt Tok.atom.inj hne
  -- token by token: a marker becomes its block, which the other splice leaves alone
  simp only [substTok, List.flatMap_assoc]
  congr 1; funext t
  show substTok m1 b1 (if t = Tok.atom m2 then b2 else [t]) = substTok m2 b2 (if t = Tok.atom m1 then b1 else [t])
  by_cases h1 : t = Tok.atom m1
  · simp [h1, hne', substTok_single, substTok_id b2 h12]
  · by_cases h2 : t = Tok.atom m2
    · simp [h2, hne'.symm, substTok_single, substTok_id b1 h21]
    · simp [h1, h2, substTok_single]

/-- Any two entries are the same entry or have different markers, and no block contains any entry's marker. -/
def Compatible (l : List (Atom × List Tok)) : Prop :=
  ∀ x ∈ l, ∀ y ∈ l, (x = y ∨ x.1 ≠ y.1) ∧ Tok.atom x.1 ∉ y.2

theorem substAll_eq_foldl : ∀ (l : List (Atom × List Tok)) (ts : List Tok),
    substAll l ts = l.foldl (fun ts it => substTok it.1 it.2 ts) ts
  | [], _ => rfl
  | _ :: rest, _ => substAll_eq_foldl rest _

/-- **Processing order is immaterial**: any permutation of the (marker, block) list gives the same string. -/
theorem substAll_perm {l1 l2 : List (Atom × List Tok)} (hp : l1.Perm l2) (h : Compatible l1) :
    ∀ ts, substAll l1 ts = substAll l2 ts := by
  intro ts
  rw [substAll_eq_foldl, substAll_eq_foldl]
  -- a fold over a permuted list: enough that any two of its steps commute
  refine hp.foldl_eq' (fun x hx y hy ts => ?_) ts
  rcases (h x hx y hy).1 with rfl | hne
  · rfl
  · exact splices_commute y.1 x.1 y.2 x.2 ts (fun e => hne e.symm) (h x hx y hy).2 (h y hy x hx).2

/-- **The children of a residue may be written (and therefore processed) in any order**: for a well-formed residue,
    permuting the list of children – each with its marker – does not change the assembled string at all. -/
theorem mergeTok_perm (isMk : Atom → Bool) (hN : isMk ['N'] = false) (toks : List Tok)
    (kids kids' : List (Atom × Bool × TNode)) (hp : kids.Perm kids') (hwf : wfTree isMk (.mk toks kids) = true) :
    mergeTok (.mk toks kids') = mergeTok (.mk toks kids)  := by
  obtain ⟨_, _, hpw, _⟩ := wfTree_mk hwf
  have hok := kidBlocks_ok isMk hN hwf
  -- two children with the same marker are the same child; no child's block holds a marker atom
  have hcomp : Compatible (kidBlocks kids) := fun x hx y hy => by
    refine ⟨?_, (hok y hy).2 _ (hok x hx).1⟩
    by_cases e : x.1 = y.1
    · exact .inl (injOn_of_map_pairwise (f := (·.1))
        (by simpa [kidBlocks_eq_map, markersOf_eq_map, Function.comp_def] using hpw) hx hy e)
    · exact .inr e
  simp only [mergeTok, mergeKidsTok_eq]
  exact (substAll_perm (by rw [kidBlocks_eq_map, kidBlocks_eq_map]; exact hp.map _) hcomp toks).symm

/-! ### renaming the markers -/

def mapTok (ρ : Atom → Atom) : Tok → Tok
  | .atom a => .atom (ρ a)
  | t => t

theorem mapTok_atom_iff (ρ : Atom → Atom) (hinj : ∀ a b, ρ a = ρ b → a = b) (m : Atom) (t : Tok) :
    mapTok ρ t = Tok.atom (ρ m) ↔ t = Tok.atom m := by
  cases t with
  | atom a =>
    simp only [mapTok, Tok.atom.injEq]
    exact ⟨hinj a m, congrArg ρ⟩
  | _ => simp [mapTok]

theorem substTok_map (ρ : Atom → Atom) (hinj : ∀ a b, ρ a = ρ b → a = b) (m : Atom) (b ts : List Tok) :
    substTok (ρ m) (b.map (mapTok ρ)) (ts.map (mapTok ρ)) = (substTok m b ts).map (mapTok ρ) := by
  -- token by token: the renamed token is the renamed marker iff the token is the marker
  simp only [substTok, List.flatMap_map, List.map_flatMap, mapTok_atom_iff ρ hinj]
  congr 1; funext t
  split <;> rfl

theorem mapTok_id_of_fixed (ρ : Atom → Atom) (ts : List Tok) (h : ∀ a, Tok.atom a ∈ ts → ρ a = a) : ts.map (mapTok ρ) = ts :=
  (List.map_congr_left fun t ht => by
    cases t with
    | atom a => simp [mapTok, h a ht]
    | _ => rfl).trans (List.map_id' ts)

theorem substAll_map (ρ : Atom → Atom) (hinj : ∀ a b, ρ a = ρ b → a = b) :
    ∀ (items : List (Atom × List Tok)) (ts : List Tok), (∀ it ∈ items, it.2.map (mapTok ρ) = it.2) →
      substAll (items.map fun it => (ρ it.1, it.2)) (ts.map (mapTok ρ)) = (substAll items ts).map (mapTok ρ)
  | [], ts, _ => rfl
  | (m, b) :: rest, ts, h => by
    obtain ⟨hb, hrest⟩ := List.forall_mem_cons.mp h
    have := substTok_map ρ hinj m b ts
    rw [hb] at this
    simp only [List.map_cons, substAll, this]
    exact substAll_map ρ hinj rest _ hrest

/-- **Marker names are immaterial.** For a well-formed residue, renaming its markers – in its string and in its child list – by an
    injective map that fixes every non-marker atom leaves the assembled string unchanged. -/
theorem mergeTok_rename (isMk : Atom → Bool) (hN : isMk ['N'] = false) (ρ : Atom → Atom)
    (hinj : ∀ a b, ρ a = ρ b → a = b) (hfix : ∀ a, isMk a = false → ρ a = a)
    (toks : List Tok) (kids : List (Atom × Bool × TNode)) (hwf : wfTree isMk (.mk toks kids) = true) :
    mergeTok (.mk (toks.map (mapTok ρ)) (kids.map fun kid => (ρ kid.1, kid.2.1, kid.2.2))) = mergeTok (.mk toks kids) := by
  have hfree := (tree_ok isMk hN (.mk toks kids) hwf).markerFree
  have hok := kidBlocks_ok isMk hN hwf
  -- what holds no marker atom is fixed by the renaming
  have hfixed : ∀ ts : List Tok, (∀ a, isMk a = true → Tok.atom a ∉ ts) → ts.map (mapTok ρ) = ts := fun ts h =>
    mapTok_id_of_fixed ρ ts fun a ha => hfix a (Bool.eq_false_iff.mpr fun hm => h a hm ha)
  have hblocks : ∀ it ∈ kidBlocks kids, it.2.map (mapTok ρ) = it.2 := fun it hit => hfixed _ (hok it hit).2
  have hkb : kidBlocks (kids.map fun kid => (ρ kid.1, kid.2.1, kid.2.2)) = (kidBlocks kids).map fun it => (ρ it.1, it.2) := by
    rw [kidBlocks_eq_map, kidBlocks_eq_map]; simp [List.map_map, Function.comp_def]
  simp only [mergeTok, mergeKidsTok_eq] at hfree ⊢
  rw [hkb, substAll_map ρ hinj (kidBlocks kids) toks hblocks]
  exact hfixed _ hfree

end Gly.Smi
