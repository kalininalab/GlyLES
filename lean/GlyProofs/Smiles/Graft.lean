import GlyProofs.Smiles.Frame
namespace Gly.Smi

/-! ### Reachable states: the current atom, the branch points, the open ring atoms and the targets of bonds exist -/

structure InRange (s : St) : Prop where
  prev : ∀ i, s.prev = some i → i < s.atoms.length
  stack : ∀ i ∈ s.stack, i < s.atoms.length
  opens : ∀ o ∈ s.opens, o.2 < s.atoms.length
  bondTo : ∀ e ∈ s.evs, ∀ i, isBondTo i e = true → i < s.atoms.length

theorem InRange.step {s s' : St} {t : Tok} (hw : InRange s) (h : Step s t s') : InRange s' := by
  obtain ⟨h1, h2, h3, h4⟩ := hw
  cases h with
  | atom a =>
    -- the old indices stay in range; the new atom is the current one and the target of the one new bond
    have hlt : ∀ {i}, i < s.atoms.length → i < (s.atoms ++ [a]).length := fun h => by
      rw [List.length_append]; exact Nat.lt_add_right _ h
    have hnew : s.atoms.length < (s.atoms ++ [a]).length := by simp
    refine ⟨fun i hi => Option.some.inj hi ▸ hnew, fun i hi => hlt (h2 i hi), fun o ho => hlt (h3 o ho),
      List.forall_mem_append.mpr ⟨fun e he i hi => hlt (h4 e he i hi), ?_⟩⟩
    cases s.prev with
    | none => nofun
    | some p => exact List.forall_mem_singleton.mpr fun i hi => beq_iff_eq.mp hi ▸ hnew
  | bond b hp hq => exact ⟨h1, h2, h3, h4⟩
  | lpar hp hq => exact ⟨h1, List.forall_mem_cons.mpr ⟨h1 _ hp, h2⟩, h3, h4⟩
  | rpar hs hq =>
    rw [hs, List.forall_mem_cons] at h2
    exact ⟨fun i hi => Option.some.inj hi ▸ h2.1, h2.2, h3, h4⟩
  | rclose l hp hl =>
    exact ⟨h1, h2, fun o ho => h3 o (mem_of_mem_eraseLabel ho), List.forall_mem_append.mpr ⟨h4, List.forall_mem_singleton.mpr nofun⟩⟩
  | ropen l hp hl =>
    exact ⟨h1, h2, List.forall_mem_cons.mpr ⟨h1 _ hp, h3⟩, List.forall_mem_append.mpr ⟨h4, List.forall_mem_singleton.mpr nofun⟩⟩

theorem run_inRange {ts : List Tok} {s : St} (h : run St.init ts = some s) : InRange s :=
  run_invariant InRange.step (by constructor <;> simp [St.init]) h

theorem map_ren_of_lt {N : Nat} (d : Nat) {l : List Nat} (h : ∀ i ∈ l, i < N) : l.map (ren N d) = l :=
  (List.map_congr_left fun i hi => if_pos (h i hi)).trans (List.map_id' l)

theorem map_shiftO_ren_of_lt {N : Nat} (d : Nat) {l : List (Nat × Nat)} (h : ∀ o ∈ l, o.2 < N) : l.map (shiftO (ren N d)) = l :=
  (List.map_congr_left fun o ho => congrArg (Prod.mk o.1) (if_pos (h o ho))).trans (List.map_id' l)

/-- **Graft lemma.** Let `pre ++ [M] ++ post` be a SMILES in which the atom token `M` is a leaf (what follows it is the end
    of the string or a closing parenthesis), and let `C = c0 :: C'` be a closed block – it starts with an atom, runs on its own to a
    state `c` with no open branch, no open ring label and no pending bond – whose ring labels are not open at that point (`N` =
    number of atoms of `pre`, `|C|` = number of atoms of `c`).
    Then `pre ++ C ++ post` is a SMILES too and denotes the graft: the atoms of `pre`, then the atoms of `C`, then the atoms
    of `post`; the bond events of `pre`, the bond from `M`'s parent to the first atom of `C`, the events of `C` shifted by
    the number of atoms before it, and the events of `post` with every index ≥ N moved up by `|C| - 1`. Every event – hence
    every ordered neighbour list and every stereo mark – of both parts is carried over as written. -/
theorem graft (pre post C' : List Tok) (M c0 : Atom) (S A c : St) (p : Nat)
    (hpre : run St.init pre = some S) (hp : S.prev = some p)
    (hA : run St.init (pre ++ [Tok.atom M] ++ post) = some A)
    (hleaf : post = [] ∨ ∃ post', post = Tok.rpar :: post')
    (hc : run St.init (Tok.atom c0 :: C') = some c) (hclosed : c.stack = [] ∧ c.opens = [] ∧ c.pend = none)
    (hlab : ∀ l ∈ labelsOf C', lookupLabel l S.opens = none) :
    ∃ B as es,
      run St.init (pre ++ (Tok.atom c0 :: C') ++ post) = some B ∧
      A.atoms = S.atoms ++ [M] ++ as ∧
      A.evs = S.evs ++ [Ev.bond p S.atoms.length S.pend] ++ es ∧
      B.atoms = S.atoms ++ c.atoms ++ as ∧
      B.evs = S.evs ++ [Ev.bond p S.atoms.length S.pend] ++ c.evs.map (Ev.map (· + S.atoms.length)) ++
                es.map (Ev.map (ren S.atoms.length (c.atoms.length - 1))) ∧
      B.stack = A.stack.map (ren S.atoms.length (c.atoms.length - 1)) ∧
      B.opens = A.opens.map (shiftO (ren S.atoms.length (c.atoms.length - 1))) ∧
      B.pend = A.pend := by
  obtain ⟨_, w2, w3, _⟩ := run_inRange hpre
  obtain ⟨hcs, hco, hcp⟩ := hclosed
  have hone : ∀ x, step S (Tok.atom x) = some (embed S p S.pend (.one x)) := fun x => by
    simp [step, embed, St.one, hp]
  have hc' : run (.one c0) C' = some c := run_atom_init c0 C' ▸ hc
  have hcpos : 0 < c.atoms.length := by simp [run_atoms hc', St.one]   -- for `c.atoms.length - 1` below
  have hblock : run S (Tok.atom c0 :: C') = some (embed S p S.pend c) := by
    rw [run_cons, hone]; exact run_embed S p S.pend C' _ c rfl hlab hc'
  -- split both runs at the marker / the block
  rw [List.append_assoc, run_append, hpre, Option.bind_some, List.singleton_append, run_cons, hone] at hA
  rw [List.append_assoc, run_append, hpre, Option.bind_some, run_append, hblock]
  simp only [Option.bind_some] at hA ⊢
  -- after the marker and after the block the states differ by the renaming, except in their current atom …
  have hsim : Sim S.atoms.length (c.atoms.length - 1)
      { embed S p S.pend (St.one M) with prev := none } { embed S p S.pend c with prev := none } :=
    ⟨rfl, by simp [embed, St.one, hcs, map_ren_of_lt _ w2], by simp [embed, St.one, hco, map_shiftO_ren_of_lt _ w3],
      by simp [embed, St.one, hcp], by simp [embed], by simp [embed, St.one]; omega⟩
  rcases hleaf with rfl | ⟨post', rfl⟩
  · cases hA
    obtain ⟨_, sst, sop, spe, _, _⟩ := hsim
    exact ⟨_, [], [], rfl, by simp [embed, St.one], by simp [embed, St.one], by simp [embed], by simp [embed], sst, sop, spe⟩
  · -- … which a closing parenthesis does not read
    have hforget : ∀ X : St, run { X with prev := none } (Tok.rpar :: post') = run X (Tok.rpar :: post') := fun X => by
      simp only [run_cons, step]
    rw [← hforget] at hA ⊢
    obtain ⟨B, as, es, hB, ⟨_, sst, sop, spe, _, _⟩, ea, ee, fa, fe⟩ := run_sim _ _ _ _ _ A hsim hA
    exact ⟨B, as, es, hB, by simpa [embed, St.one] using ea, by simpa [embed, St.one] using ee, by simpa [embed] using fa,
      by simpa [embed] using fe, sst, sop, spe⟩

end Gly.Smi
