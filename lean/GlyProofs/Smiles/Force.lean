import GlyModel.Smiles.Graph
/-
  The kernel passes arguments unevaluated and re-enters them at every use: it remembers the head normal form of a closed term, not
  the evaluated data. A decoded molecule (`s.atoms ++ [a]`, `evs ++ …` thunks) is inspected thousands of times by the table checks,
  so it pays to bring it to normal form once. `Mol.nf` is the identity (`Mol.nf_eq`) written in continuation-passing style: the
  continuation receives constructor applications of parts that are already evaluated. Rewriting with `semOfChars_nf` before
  `decide +kernel` spares the kernel that re-entering.
-/
namespace Gly.Smi

-- `k (m + 1)`, not `k n`: `n` is the argument as it was passed, `m + 1` the literal the match has produced
def nfNat {α} (n : Nat) (k : Nat → α) : α := match n with | 0 => k 0 | m + 1 => k (m + 1)
def nfOpt {α β} (b : Option β) (k : Option β → α) : α := match b with | none => k none | some c => k (some c)
def nfList {α β} (f : β → (β → α) → α) : List β → (List β → α) → α
  | [], k => k []
  | b :: bs, k => f b fun b' => nfList f bs fun bs' => k (b' :: bs')
def nfEv {α} (e : Ev) (k : Ev → α) : α :=
  match e with
  | .bond i j b => nfNat i fun i => nfNat j fun j => nfOpt b fun b => k (.bond i j b)
  | .ropen i l b => nfNat i fun i => nfNat l fun l => nfOpt b fun b => k (.ropen i l b)
  | .rclose i q l b => nfNat i fun i => nfNat q fun q => nfNat l fun l => nfOpt b fun b => k (.rclose i q l b)
def Mol.nf (m : Mol) : Mol := nfList (nfList fun c k => k c) m.atoms fun as => nfList nfEv m.evs fun es => ⟨as, es⟩
def semOfCharsN (s : List Char) : Option Mol := (semOfChars s).map Mol.nf

theorem nfNat_eq {α} (n : Nat) (k : Nat → α) : nfNat n k = k n := by cases n <;> rfl
theorem nfOpt_eq {α β} (b : Option β) (k : Option β → α) : nfOpt b k = k b := by cases b <;> rfl
theorem nfList_eq {α β} {f : β → (β → α) → α} (hf : ∀ b k, f b k = k b) : ∀ l k, nfList f l k = k l
  | [], _ => rfl
  | b :: bs, k => by simp only [nfList, hf, nfList_eq hf bs]
theorem nfEv_eq {α} (e : Ev) (k : Ev → α) : nfEv e k = k e := by cases e <;> simp only [nfEv, nfNat_eq, nfOpt_eq]
theorem Mol.nf_eq (m : Mol) : m.nf = m := by
  simp only [Mol.nf, nfList_eq (nfList_eq (fun _ _ => rfl)), nfList_eq nfEv_eq]
theorem semOfChars_nf : semOfChars = semOfCharsN := by
  funext s; unfold semOfCharsN; cases semOfChars s <;> simp [Mol.nf_eq]

/-- Table keys as numbers. The kernel compares `Nat` literals natively and lists of characters constructor by constructor, so
    "the keys are pairwise different" is evaluated on their codes: different codes, different keys (no injectivity needed). -/
def keyCode (k : List Char) : Nat := k.foldl (fun a c => a * 256 + c.toNat) 0

theorem nodup_of_keyCodes {l : List (List Char)} (h : (l.map keyCode).Nodup) : l.Nodup :=
  List.Pairwise.of_map keyCode (fun _ _ hne e => hne (e ▸ rfl)) h

end Gly.Smi
