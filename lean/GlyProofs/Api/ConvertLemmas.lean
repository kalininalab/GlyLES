import GlyModel.Api.Convert
/-
  `convert` in closed form: what it returns and what it leaves behind, in terms of the world it found.
-/
namespace Gly.Api

/-- the pairs of one call: one container for the static inputs (if there are any), one for the generator -/
def results (par : (Input → Pair) → List Input → List Pair) (conv : Input → Outcome)
    (single : Option Input) (list fileLines gen : Option (List Input)) : List Pair :=
  ((if (preprocess single list fileLines).isEmpty then [] else [preprocess single list fileLines]) ++ gen.toList).flatMap
    (par (generate conv))

/-- Switching the logger off and putting back what was found cancel on every way out, so the world after `convert` is the world
    before it with the lines of this call's pairs in the chosen sink. -/
theorem convert_eq (par conv single list fileLines gen sink verbose) (w : World) :
    convert par conv single list fileLines gen sink verbose w =
      if (preprocess single list fileLines).isEmpty && gen.isNone then (.nothing, w) else
      match sink with
      | .returning => (.list (results par conv single list fileLines gen), w)
      | .file path => (.nothing, { w with files := (path, (results par conv single list fileLines gen).map renderLine) :: w.files })
      | .stdout => (.nothing, { w with stdout := w.stdout ++ (results par conv single list fileLines gen).map renderLine }) := by
  cases verbose <;> cases sink <;> rfl

/-- with an executor that returns results in submission order the pairs are the inputs in the documented order, one each -/
theorem results_inOrder (par) (hpar : ∀ f xs, par f xs = xs.map f) (conv : Input → Outcome)
    (single : Option Input) (list fileLines gen : Option (List Input)) :
    results par conv single list fileLines gen = (preprocess single list fileLines ++ gen.getD []).map (generate conv) := by
  unfold results
  cases h : preprocess single list fileLines <;> cases gen <;> simp [hpar]

theorem convertGenerator_eq (conv single list fileLines gen verbose) (w : World) :
    convertGenerator conv single list fileLines gen verbose w =
      ((preprocess single list fileLines ++ gen.getD []).map (generate conv), w) := by
  unfold convertGenerator
  cases verbose <;> cases h : preprocess single list fileLines <;> cases gen <;> simp

/-! ### reading a glycan file: `readLines` -/

def NoNL (l : List Char) : Prop := ∀ c ∈ l, c ≠ '\n' ∧ c ≠ '\r'

theorem splitAux_plain (c : Char) (rest cur : List Char) (h1 : c ≠ '\n') (h2 : c ≠ '\r') :
    splitAux (c :: rest) cur = splitAux rest (c :: cur) :=
  -- the catch-all equation of `splitAux`; its side conditions rule out the three terminator patterns
  splitAux.eq_5 cur c rest (fun _ e _ => h2 e) h2 h1

theorem splitAux_line (l rest cur : List Char) (h : NoNL l) :
    splitAux (l ++ '\n' :: rest) cur = (cur.reverse ++ l) :: splitAux rest [] := by
  induction l generalizing cur with
  | nil => rw [List.nil_append, List.append_nil, splitAux]
  | cons c l ih =>
    obtain ⟨hc, hl⟩ := List.forall_mem_cons.mp h
    rw [List.cons_append, splitAux_plain c _ cur hc.1 hc.2, ih (c :: cur) hl]
    simp

theorem splitLines_join (ls : List (List Char)) (h : ∀ l ∈ ls, NoNL l) :
    splitLines (ls.flatMap (· ++ ['\n'])) = ls := by
  unfold splitLines
  induction ls with
  | nil => simp [splitAux]
  | cons l ls ih =>
    obtain ⟨hl, hls⟩ := List.forall_mem_cons.mp h
    simp only [List.flatMap_cons, List.append_assoc, List.cons_append, List.nil_append]
    rw [splitAux_line l _ [] hl, List.reverse_nil, List.nil_append, ih hls]

theorem dropWhile_id_of_head {α} (p : α → Bool) (l : List α) (h : ∀ x, l.head? = some x → p x = false) : l.dropWhile p = l := by
  cases l with
  | nil => rfl
  | cons a as => simp [h a rfl]

theorem stripLine_id (l : List Char) (h1 : ∀ x, l.head? = some x → isSpace x = false)
    (h2 : ∀ x, l.getLast? = some x → isSpace x = false) : stripLine l = l := by
  rw [stripLine, dropWhile_id_of_head isSpace l h1,
    dropWhile_id_of_head isSpace l.reverse (fun x hx => h2 x (List.head?_reverse ▸ hx)), List.reverse_reverse]

end Gly.Api
