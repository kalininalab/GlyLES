import GlyModel.Api.Heap
import GlyProofs.ListLemmas
namespace Gly.Heap

theorem fresh_not_in_heap (w : World) : ∀ p ∈ w.heap, p.1 ≠ w.fresh := by
  intro p hp h
  have h1 := (foldl_max_spec (·.1) w.heap 0).2.1 p hp
  rw [← List.foldl_map, h] at h1
  exact Nat.not_succ_le_self _ h1

theorem get_set_ne {w : World} {a b : Addr} {v : Smiles} (hne : b ≠ a) : (w.set a v).get b = w.get b := by
  -- a lookup is a `findSome?`, and `set` keeps every key and changes the value under `a` only
  simp only [World.get, World.set, List.lookup_eq_findSome?, List.findSome?_map]
  congr 2; funext ⟨c, x⟩
  by_cases hc : c = a
  · simp [hc, hne]
  · simp [hc]

theorem get_copy_old (w : World) (a : Addr) {b : Addr} (hb : b ≠ w.fresh) : (w.copy a).1.get b = w.get b := by
  simp [World.copy, World.get, List.lookup_cons, beq_false_of_ne hb]

theorem get_copy_new (w : World) (a : Addr) : (w.copy a).1.get (w.copy a).2 = w.get a := by
  simp [World.copy, World.get]

/-- Addresses stored in the table exist in the heap (invariant of a well-formed world). -/
def WFW (w : World) : Prop := ∀ k a, w.table.lookup k = some a → ∃ v, (a, v) ∈ w.heap

theorem openForm_copy_frame (w : World) (hw : WFW w) (k : List Char) (rw : Smiles → Smiles) :
    let w' := (openForm true k rw w).1
    w'.table = w.table ∧ (∀ k', w'.read k' = w.read k') ∧ WFW w' := by
  unfold openForm
  cases hk : w.lookupKey k with
  | none => exact ⟨rfl, fun _ => rfl, hw⟩
  | some a =>
    -- the rewrite goes to the copy, at the fresh address; what the table refers to lives in the heap, so elsewhere
    refine ⟨rfl, fun k' => Option.map_congr fun b hb => ?_, fun k' b hb => ?_⟩
    all_goals
      obtain ⟨v, hv⟩ := hw k' b hb
      have hne : b ≠ w.fresh := fresh_not_in_heap w (b, v) hv
    · exact (get_set_ne hne).trans (get_copy_old w a hne)
    · exact ⟨v, List.mem_map.mpr ⟨(b, v), List.mem_cons_of_mem _ hv, if_neg hne⟩⟩

/-- with the copy, the result of an open-form rewrite is the rewrite of what the table reads for that key -/
theorem openForm_copy_result (w : World) (k : List Char) (rw : Smiles → Smiles) :
    (openForm true k rw w).2 = (w.read k).map rw := by
  unfold openForm World.read
  cases hk : w.lookupKey k with
  | none => simp
  | some a => simp [get_copy_new]

end Gly.Heap
