import GlyModel.Api.Lifecycle
namespace Gly.Life

theorem release_deliverable (valid : List Char → Bool) (s : List Char) : Deliverable valid (release valid s) := by
  unfold release Deliverable
  split
  · left; simpa using ‹s.isEmpty = true›
  · split
    · right; assumption
    · left; rfl

/-- The three ways `get_smiles` returns: gate closed, cache hit, lazy fill. -/
theorem getSmiles_cases {valid : List Char → Bool} {o o' : Obj} {tfLazy : Bool} {mergedLazy : Option (List Char)} {r : List Char}
    (h : getSmiles valid o tfLazy mergedLazy = some (r, o')) :
    ((!o.treeOnly && o.full && !o.treeFull) = true ∧ r = [] ∧ o' = o) ∨
    ((!o.treeOnly && o.full && !o.treeFull) = false ∧ o.cached = some r ∧ o' = o) ∨
    ((!o.treeOnly && o.full && !o.treeFull) = false ∧ o.cached = none ∧ ∃ m, mergedLazy = some m ∧ r = release valid m ∧
      o' = { o with treeFull := if o.treeOnly then o.treeFull else tfLazy, cached := some r }) := by
  unfold getSmiles at h
  split at h
  · cases h; exact .inl ⟨‹_›, rfl, rfl⟩
  · have hg : (!o.treeOnly && o.full && !o.treeFull) = false := Bool.eq_false_iff.mpr ‹_›
    split at h
    · cases h; exact .inr (.inl ⟨hg, ‹_›, rfl⟩)
    · split at h <;> cases h
      exact .inr (.inr ⟨hg, ‹_›, _, rfl, rfl, rfl⟩)

/-- **Nothing leaves the object unchecked**: whatever `get_smiles` returns – at the first call or any later one, eager or lazy
    path, any option combination – is the empty string or a string that passed the release gate; and the object stays in a state
    where this holds for the next call. -/
theorem getSmiles_deliverable (valid : List Char → Bool) (o o' : Obj) (tfLazy : Bool) (mergedLazy : Option (List Char))
    (r : List Char) (hI : Inv valid o) (h : getSmiles valid o tfLazy mergedLazy = some (r, o')) :
    Deliverable valid r ∧ Inv valid o' := by
  rcases getSmiles_cases h with ⟨_, rfl, rfl⟩ | ⟨_, hc, rfl⟩ | ⟨_, _, m, _, rfl, rfl⟩
  · exact ⟨.inl rfl, hI⟩
  · exact ⟨hI r hc, hI⟩
  · exact ⟨release_deliverable valid m, fun c hc => by cases hc; exact release_deliverable valid m⟩

/-- what the constructor guarantees: when it could assemble the molecule at once, it did -/
def Eager (o : Obj) : Prop := (!o.treeOnly && o.full && o.treeFull) = true → o.cached.isSome = true

theorem construct_spec {valid : List Char → Bool} {treeOnly full tfCtor : Bool} {merged : Option (List Char)} {o : Obj}
    (h : construct valid treeOnly full tfCtor merged = some o) : Inv valid o ∧ Eager o := by
  unfold construct at h
  split at h
  · split at h <;> cases h
    exact ⟨fun c hc => Option.some.inj hc ▸ release_deliverable valid _, fun _ => rfl⟩
  · cases h
    exact ⟨nofun, fun hc => absurd (Bool.and_right_comm .. ▸ hc) ‹_›⟩

/-- **Asking again gives the same string and changes nothing any more**: on an object as the constructor leaves it, after a call
    that returned `r` every further call returns `r` and the object it found – the lazy walk cannot close the gate, because an
    object whose gate could close this way (`not tree_only and full and tree_full`) was assembled eagerly and has its cache. -/
theorem getSmiles_again {valid : List Char → Bool} {o o' : Obj} {tf1 : Bool} {m1 : Option (List Char)} {r : List Char}
    (he : Eager o) (h : getSmiles valid o tf1 m1 = some (r, o')) :
    ∀ tf2 m2, getSmiles valid o' tf2 m2 = some (r, o') := by
  rcases getSmiles_cases h with ⟨hg, rfl, rfl⟩ | ⟨hg, hc, rfl⟩ | ⟨hg, hc, m, _, rfl, rfl⟩
  · exact fun _ _ => by unfold getSmiles; rw [if_pos hg]
  · exact fun _ _ => by unfold getSmiles; rw [if_neg (Bool.eq_false_iff.mp hg), hc]
  · have hne : (!o.treeOnly && o.full) = false := by
      cases ht : o.treeOnly <;> cases hf : o.full <;> simp_all [Eager]
    exact fun _ _ => by simp [getSmiles, hne]

/-- `getSmiles_again` for one further call on an object the constructor made -/
theorem getSmiles_stable (valid : List Char → Bool) (treeOnly full tfCtor : Bool) (merged : Option (List Char)) (o o' : Obj)
    (hc : construct valid treeOnly full tfCtor merged = some o)
    (tf1 : Bool) (m1 : Option (List Char)) (r : List Char) (h : getSmiles valid o tf1 m1 = some (r, o'))
    (tf2 : Bool) (m2 : Option (List Char)) : ∃ o'', getSmiles valid o' tf2 m2 = some (r, o'') :=
  ⟨o', getSmiles_again (construct_spec hc).2 h tf2 m2⟩

end Gly.Life
