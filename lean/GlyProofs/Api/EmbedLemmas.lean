import GlyModel.Api.Embed
namespace Gly.Embed

theorem range_mem_cands (n : Nat) : ∀ k, k ≤ n → List.range k ∈ cands n k := by
  intro k
  induction k with
  | zero => intro _; simp [cands]
  | succ k ih =>
    intro hk
    simp only [cands, List.mem_flatMap, List.mem_map, List.mem_filter, List.mem_range]
    exact ⟨List.range k, ih (by omega), k, ⟨by omega, by simp⟩, List.range_succ.symm⟩

theorem getD_range {n i : Nat} (h : i < n) : (List.range n).getD i 0 = i := by
  simp [List.getD, h]

/-- the identity is an embedding of a glycan into itself as soon as both matchers are reflexive on what the glycan contains -/
theorem isEmb_self (nodeOk : Recipe → Recipe → Bool) (edgeOk : List Char → List Char → Bool) (g : G)
    (hn : ∀ r ∈ g.nodes, nodeOk r r = true) (he : ∀ e ∈ g.edges, edgeOk e.2.2 e.2.2 = true) :
    isEmb nodeOk edgeOk g g (List.range g.nodes.length) = true := by
  unfold isEmb
  simp only [Bool.and_eq_true, List.length_range, beq_self_eq_true, true_and, List.all_eq_true, List.mem_range,
    decide_eq_true_eq]
  refine ⟨⟨⟨fun _ hx => hx, List.nodup_range⟩, ?_⟩, ?_⟩
  · intro i hi
    rw [getD_range hi]
    apply hn
    simp [List.getD, hi]
  · intro i hi j hj
    rw [getD_range hi, getD_range hj]
    cases hl : edgeLabel g.edges i j with
    | none => rfl
    | some l =>
      simp only [edgeLabel, Option.map_eq_some_iff] at hl
      obtain ⟨e, hfe, rfl⟩ := hl
      exact he e (List.mem_of_find?_eq_some hfe)

theorem count_self_pos (nodeOk : Recipe → Recipe → Bool) (edgeOk : List Char → List Char → Bool) (g : G)
    (hn : ∀ r ∈ g.nodes, nodeOk r r = true) (he : ∀ e ∈ g.edges, edgeOk e.2.2 e.2.2 = true) :
    1 ≤ count nodeOk edgeOk g g :=
  List.length_pos_of_mem (List.mem_filter.mpr ⟨range_mem_cands _ _ (Nat.le_refl _), isEmb_self nodeOk edgeOk g hn he⟩)

theorem edgeEq_refl (on : Bool) (l : List Char) : edgeEq on l l = true := by simp [edgeEq]

end Gly.Embed
