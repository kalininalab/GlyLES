import GlyProofs.Mono.ReactLemmas
/-
  Order-independence of modifications, for every token shape: what a token does is an operation on *one* cell of the side-chain
  table, decided without looking at the table's content (`tokenOp`); operations on different positions commute.
-/
namespace Gly.React

/-- (position, column) of the cell an operation writes – the order of `setCell`; `.fg` and `setFg` take (column, position) -/
def CellOp.cell : CellOp → Option (Nat × Nat)
  | .edit pos col _ => some (pos, col)
  | .fg col pos _ _ => some (pos, col)
  | _ => Option.none

/-- what the operation does to its cell, as a function of the table (it only looks at its own cell and the table's size); the
    value on operations without a cell is never looked at: every use is under `o.cell = some …` -/
def opFn (cs : Chains) : CellOp → Outcome ((List Char → List Char) × Bool)
  | .edit _ _ f => .ok (f, true)
  | .fg col pos be name => if pos ≥ cs.length then .error "IndexError" else fgEdit (getCell cs pos col) be name
  | _ => .ok (id, true)

def stepOp (st : RState) (o : CellOp) : Outcome RState :=
  bindO (applyOp st.chains o) (fun e => .ok (applyEffect st e))

/-- `set_fg` is the `.fg` operation on its cell -/
theorem setFg_eq (cs : Chains) (col pos : Nat) (be name : List Char) :
    setFg cs col pos be name = bindO (opFn cs (.fg col pos be name)) (fun r => .ok (setCell cs pos col r.1, r.2)) := by
  simp only [setFg, opFn]
  split
  · rfl
  · cases fgEdit (getCell cs pos col) be name <;> rfl

/-- **One step**: an operation on a cell writes that cell with what `opFn` computes, and and's its flag onto `full`. -/
theorem stepOp_cell (st : RState) {o : CellOp} {pos col : Nat} (h : o.cell = some (pos, col)) :
    stepOp st o = bindO (opFn st.chains o)
      (fun r => .ok { st with chains := setCell st.chains pos col r.1, full := st.full && r.2 }) := by
  cases o with
  | none | postpone _ => cases h
  | edit p c f => cases h; simp [stepOp, applyOp, opFn, bindO_pure, applyEffect]
  | fg c p be name => cases h; simp only [stepOp, applyOp, setFg_eq, bindO_assoc, bindO_pure]; rfl

/-- locality: an edit of another position does not change what an operation does -/
theorem opFn_local {cs : Chains} {o : CellOp} {pos col p1 c1 : Nat} {f1 : List Char → List Char}
    (h : o.cell = some (pos, col)) (hne : p1 ≠ pos) : opFn (setCell cs p1 c1 f1) o = opFn cs o := by
  cases o with
  | fg c p be name => cases h; simp only [opFn, setCell_length, getCell_setCell_ne hne]
  | _ => rfl

/-- **Two steps on different positions**: both operations act on the table as it was before either. -/
theorem two_steps (st : RState) {o1 o2 : CellOp} {p1 c1 p2 c2 : Nat} (h1 : o1.cell = some (p1, c1)) (h2 : o2.cell = some (p2, c2))
    (hne : p1 ≠ p2) :
    bindO (stepOp st o1) (fun s1 => stepOp s1 o2) =
      bindO (opFn st.chains o1) (fun r1 => bindO (opFn st.chains o2) (fun r2 =>
        .ok { st with chains := setCell (setCell st.chains p1 c1 r1.1) p2 c2 r2.1, full := (st.full && r1.2) && r2.2 })) := by
  rw [stepOp_cell st h1, bindO_assoc]
  refine bindO_congr fun r1 _ => ?_
  rw [bindO_pure, stepOp_cell _ h2, opFn_local h2 hne]

/-- When both operations succeed on the table as it is, the two orders give the same state (`two_steps` twice). -/
theorem stepOp_swap (st : RState) {o1 o2 : CellOp} {p1 c1 p2 c2 : Nat} (h1 : o1.cell = some (p1, c1)) (h2 : o2.cell = some (p2, c2))
    (hne : p1 ≠ p2) (hr1 : ∃ r, opFn st.chains o1 = .ok r) (hr2 : ∃ r, opFn st.chains o2 = .ok r) :
    bindO (stepOp st o1) (fun s1 => stepOp s1 o2) = bindO (stepOp st o2) (fun s2 => stepOp s2 o1) := by
  obtain ⟨r1, hr1⟩ := hr1
  obtain ⟨r2, hr2⟩ := hr2
  rw [two_steps st h1 h2 hne, two_steps st h2 h1 hne.symm, hr1, hr2]
  simp only [bindO_pure, setCell_comm hne, Bool.and_right_comm]

theorem opFn_fg_ok {cs : Chains} (col : Nat) {pos : Nat} (be : List Char) {name v : List Char} (hpos : pos < cs.length)
    (hv : fgLookup name = some v) (hne : v ≠ []) : ∃ r, opFn cs (.fg col pos be name) = .ok r := by
  obtain ⟨f, hf⟩ := fgEdit_ok (getCell cs pos col) be hv hne
  exact ⟨_, by rw [opFn, if_neg (Nat.not_le.mpr hpos), hf]⟩

/-- **Operations on different positions commute**: whenever one order succeeds, the other succeeds with the same side-chain table,
    the same postponed list and the same flag. -/
theorem stepOp_comm (st : RState) (o1 o2 : CellOp) (p1 c1 p2 c2 : Nat) (h1 : o1.cell = some (p1, c1)) (h2 : o2.cell = some (p2, c2))
    (hne : p1 ≠ p2) (s : RState) (h : bindO (stepOp st o1) (fun s1 => stepOp s1 o2) = .ok s) :
    bindO (stepOp st o2) (fun s2 => stepOp s2 o1) = .ok s := by
  -- the first order succeeded, so both operations succeed on the table as it is
  obtain ⟨r1, hr1, h'⟩ := bindO_eq_ok (two_steps st h1 h2 hne ▸ h)
  obtain ⟨r2, hr2, _⟩ := bindO_eq_ok h'
  rw [← stepOp_swap st h1 h2 hne ⟨r1, hr1⟩ ⟨r2, hr2⟩, h]

theorem stepOp_length {st s : RState} {o : CellOp} (h : stepOp st o = .ok s) : s.chains.length = st.chains.length := by
  cases o with
  | none | postpone => cases h; rfl
  | edit | fg =>
    rw [stepOp_cell st rfl] at h
    obtain ⟨r, _, hs⟩ := bindO_eq_ok h
    cases hs; exact setCell_length ..

theorem reactToken_eq_stepOp (v : View) (st : RState) (n : List Char) :
    reactToken v st n = bindO (tokenOp v st.chains.length n) (stepOp st) :=
  bindO_assoc _ _ _

/-- two tokens in a row are their two operations in a row: the second token is dispatched on a table of the same size -/
theorem reactToken_two {v : View} {st : RState} {n1 n2 : List Char} {o1 o2 : CellOp}
    (ho1 : tokenOp v st.chains.length n1 = .ok o1) (ho2 : tokenOp v st.chains.length n2 = .ok o2) :
    bindO (reactToken v st n1) (fun s1 => reactToken v s1 n2) = bindO (stepOp st o1) (fun s1 => stepOp s1 o2) := by
  rw [reactToken_eq_stepOp, ho1, bindO_pure]
  refine bindO_congr fun s1 hs => ?_
  rw [reactToken_eq_stepOp, stepOp_length hs, ho2, bindO_pure]

/-- **Two modification tokens of any shape that write different positions can be written in either order**: whenever the
    round handles `n1` then `n2` successfully, it handles `n2` then `n1` successfully with the same result. -/
theorem reactToken_comm (v : View) (st : RState) (n1 n2 : List Char) (o1 o2 : CellOp) (p1 c1 p2 c2 : Nat)
    (ho1 : tokenOp v st.chains.length n1 = .ok o1) (ho2 : tokenOp v st.chains.length n2 = .ok o2)
    (h1 : o1.cell = some (p1, c1)) (h2 : o2.cell = some (p2, c2)) (hne : p1 ≠ p2) (s : RState)
    (h : bindO (reactToken v st n1) (fun s1 => reactToken v s1 n2) = .ok s) :
    bindO (reactToken v st n2) (fun s2 => reactToken v s2 n1) = .ok s := by
  rw [reactToken_two ho1 ho2] at h
  rw [reactToken_two ho2 ho1]
  exact stepOp_comm st o1 o2 p1 c1 p2 c2 h1 h2 hne s h

/-- Two `set_fg` calls at different positions commute. -/
theorem setFg_comm (cs : Chains) (c1 p1 c2 p2 : Nat) (be1 n1 be2 n2 : List Char) (h : p1 ≠ p2) :
    bindO (setFg cs c1 p1 be1 n1) (fun (cs1, ok1) => bindO (setFg cs1 c2 p2 be2 n2) (fun (cs2, ok2) => Outcome.ok (cs2, ok1 && ok2))) =
    (match setFg cs c1 p1 be1 n1, setFg cs c2 p2 be2 n2 with
     | .ok (_, ok1), .ok (_, ok2) =>
       bindO (setFg cs c2 p2 be2 n2) (fun (csb, _) => bindO (setFg csb c1 p1 be1 n1) (fun (cs2, _) => Outcome.ok (cs2, ok1 && ok2)))
     | .ok _, .error e => .error e
     | .ok _, .unmodelled => .unmodelled
     | .error e, _ => .error e
     | .unmodelled, _ => .unmodelled) := by
  simp only [setFg_eq]
  cases hr1 : opFn cs (.fg c1 p1 be1 n1) <;> cases hr2 : opFn cs (.fg c2 p2 be2 n2) <;>
    simp [bindO, hr1, hr2, opFn_local (o := .fg c2 p2 be2 n2) rfl h, opFn_local (o := .fg c1 p1 be1 n1) rfl h.symm, setCell_comm h]

end Gly.React
