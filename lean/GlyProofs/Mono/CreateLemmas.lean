import GlyModel.Mono.Factory
namespace Gly.Model

theorem firstOfType_cons (x : List Char × Nat) (xs : Recipe) (ty : Nat) :
    firstOfType (x :: xs) ty = if x.2 == ty then some x.1 else firstOfType xs ty := by
  unfold firstOfType
  rw [List.find?_cons]
  cases h : (x.2 == ty) <;> simp

theorem firstOfType_append (a b : Recipe) (ty : Nat) :
    firstOfType (a ++ b) ty = (firstOfType a ty).or (firstOfType b ty) := by
  unfold firstOfType
  rw [List.find?_append, Option.map_or]

theorem firstOfType_insert_other (a b : Recipe) (x : List Char) (ty ty' : Nat) (hne : ty' ≠ ty) :
    firstOfType (a ++ (x, ty') :: b) ty = firstOfType (a ++ b) ty := by
  rw [firstOfType_append, firstOfType_append, firstOfType_cons, if_neg (by simpa using hne)]

theorem firstOfType_insert_same {a : Recipe} {ty : Nat} (h : firstOfType a ty = none) (x : List Char) (b : Recipe) :
    firstOfType (a ++ (x, ty) :: b) ty = some x := by
  rw [firstOfType_append, h, firstOfType_cons, if_pos (beq_self_eq_true ty)]
  rfl

theorem firstOfType_mem {r : Recipe} {ty : Nat} {v : List Char} (h : firstOfType r ty = some v) : (v, ty) ∈ r := by
  simp only [firstOfType, Option.map_eq_some_iff] at h
  obtain ⟨⟨a, b⟩, hf, rfl⟩ := h
  have hb : b = ty := by simpa using List.find?_some hf
  exact hb ▸ List.mem_of_find?_eq_some hf

theorem firstOfType_unique {r : Recipe} {ty : Nat} {v : List Char} (hm : (v, ty) ∈ r)
    (h1 : r.countP (fun x => x.2 == ty) = 1) : firstOfType r ty = some v := by
  -- the entries of type `ty` are a one-element list: it holds `(v, ty)`, and `find?` is its head
  obtain ⟨y, hy⟩ := List.length_eq_one_iff.mp (List.countP_eq_length_filter ▸ h1)
  have : (v, ty) ∈ r.filter (fun x => x.2 == ty) := List.mem_filter.mpr ⟨hm, by simp⟩
  rw [hy, List.mem_singleton] at this
  rw [firstOfType, ← List.head?_filter, hy, ← this]; rfl

/-- the table lookup of `create`: a function of the key, of whether the pyranose table is consulted, and of the recipe the
    monomer is to keep -/
def resolve (notF : Bool) (key : List Char) (recipe' : Recipe) : Option CreateResult :=
  match (if notF then findRow Gen.pyranoseTable key else none) with
  | some row => some ⟨.pyranose, key, some row, recipe'⟩
  | none =>
    match findRow Gen.furanoseTable key with
    | some row => some ⟨.furanose, key, some row, recipe'⟩
    | none =>
      match findRow Gen.openTable key with
      | some row => some ⟨.open_, key, some row, recipe'⟩
      | none =>
        if upper (key.drop (key.length - 3)) == "SUC".toList then some ⟨.succinic, key, none, recipe'⟩
        else some ⟨.unknown, key, none, recipe'⟩

/-- `create` reads the recipe through its first `SAC`, `TYPE` and `RING` entries only: the name, the anomer (`config` takes
    precedence over a `TYPE` entry and is then recorded as one) and whether the ring is not an explicit `f`. -/
theorem create_eq (recipe : Recipe) (config : List Char) :
    create recipe config = (firstOfType recipe Gen.frontCfg.tSAC).bind fun name0 =>
      let name := if name0 == "Sug".toList then "Oct".toList else name0
      resolve ((firstOfType recipe Gen.frontCfg.tRING).all (· != ['f']))
        (match (if config.isEmpty then firstOfType recipe Gen.frontCfg.tTYPE else some config) with
          | some c => c ++ ['_'] ++ name
          | none => name)
        (if config.isEmpty then recipe else recipe ++ [(config, Gen.frontCfg.tTYPE)]) := by
  unfold create
  cases firstOfType recipe Gen.frontCfg.tSAC with
  | none => rfl
  | some name0 =>
    cases config.isEmpty <;> cases firstOfType recipe Gen.frontCfg.tTYPE <;> cases firstOfType recipe Gen.frontCfg.tRING <;> rfl

/-- the recipe handed on plays no part in the lookup -/
theorem resolve_forgets_recipe (notF : Bool) (key : List Char) (r r' : Recipe) :
    (resolve notF key r).map (fun x => (x.table, x.key, x.row)) = (resolve notF key r').map (fun x => (x.table, x.key, x.row)) := by
  unfold resolve
  repeat' split
  all_goals rfl

end Gly.Model
