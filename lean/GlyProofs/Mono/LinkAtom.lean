import GlyModel.Mono.EnumC
namespace Gly.EnumC

theorem idx_mem (v : View) (p : Nat → Bool) (i : Nat) (h : i ∈ idx v p) : p i = true := by
  simp only [idx, List.mem_filter] at h; exact h.2

/-- what `find_oxygen` hands out for a carbon: the carbon itself, or a hetero atom (O preferred, else N) bonded to it by a single
    bond that is not exclusively in the main ring (so never the ring oxygen) -/
theorem findOxygenAt_spec (v : View) (pos o : Nat) (h : findOxygenAt v [pos] = .ok o) :
    o = pos ∨ (v.bo pos o = 1 ∧ ((v.at o).z = 8 ∨ (v.at o).z = 7) ∧ (v.at o).ring ≠ 1) := by
  -- when `o` is the one candidate of element `z`, it passes the candidates' filter
  have cand (z : Nat) (hz : idx v (fun j => v.bo pos j == 1 && (v.at j).z == z && (v.at j).ring != 1) = [o]) :
      v.bo pos o = 1 ∧ (v.at o).z = z ∧ (v.at o).ring ≠ 1 := by
    have := idx_mem v _ o (hz ▸ List.mem_singleton_self o)
    simpa only [Bool.and_eq_true, beq_iff_eq, bne_iff_ne, ne_eq, and_assoc] using this
  simp only [findOxygenAt] at h
  split at h
  · cases h
    obtain ⟨hb, hz, hr⟩ := cand 8 ‹_›
    exact .inr ⟨hb, .inl hz, hr⟩
  · split at h
    · cases h
      obtain ⟨hb, hz, hr⟩ := cand 7 ‹_›
      exact .inr ⟨hb, .inr hz, hr⟩
    · split at h
      · cases h; exact .inl rfl
      · cases h

/-- what `__check_root_id`'s search can return: the atom it was given, a terminal oxygen, or a nitrogen with at most two bonds -/
theorem checkRootGo_spec (v : View) : ∀ (fuel : Nat) (q seen : List Nat) (cand : Option Nat) (root : Nat),
    (∀ c, cand = some c → (v.at c).z = 7 ∧ degSum v c ≤ 2) →
    let r := checkRootGo v fuel q seen cand root
    r = root ∨ ((v.at r).z = 8 ∧ degSum v r = 1) ∨ ((v.at r).z = 7 ∧ degSum v r ≤ 2) := by
  intro fuel q seen cand root hc
  -- one case per equation of `checkRootGo`: fuel or queue exhausted (twice), an atom other than N / O passed, a terminal O found,
  -- an N or a bound O looked at
  fun_induction checkRootGo v fuel q seen cand root
  case case1 | case2 =>
    cases ‹Option Nat› with
    | none => exact .inl rfl
    | some c => exact .inr (.inr (hc c rfl))
  case case3 ih => exact ih hc
  case case4 h8 => exact .inr (.inl (by simpa using h8))
  case case5 cand' ih =>
    refine ih fun c hcc => ?_
    simp only [cand'] at hcc
    split at hcc
    · rename_i h7
      cases hcc
      simp only [Bool.and_eq_true, beq_iff_eq, decide_eq_true_eq] at h7
      exact h7.1
    · exact hc c hcc

/-! ### `Monomer.mark` changes one atom's element and nothing else -/

theorem setZ_at_ne (v : View) (i z j : Nat) (h : j ≠ i) : (v.setZ i z).at j = v.at j := by
  simp [View.setZ, View.at, List.getD_eq_getElem?_getD, List.getElem?_mapIdx, h]

theorem setZ_at_self (v : View) (i z : Nat) (h : i < v.atoms.length) :
    ((v.setZ i z).at i).z = z ∧ ((v.setZ i z).at i).ring = (v.at i).ring ∧ ((v.setZ i z).at i).iso = (v.at i).iso := by
  unfold View.setZ View.at
  simp [List.getD, h]

theorem setZ_adj (v : View) (i z : Nat) : (v.setZ i z).adj = v.adj := rfl

theorem setZ_length (v : View) (i z : Nat) : (v.setZ i z).atoms.length = v.atoms.length := List.length_mapIdx

theorem markAt_elem {v : View} {x : Numbering} {pos oZ nZ r z : Nat} (h : markAt v x pos oZ nZ = .ok (r, z)) :
    ((v.at r).z = 8 ∧ z = oZ) ∨ ((v.at r).z = 7 ∧ z = nZ) := by
  unfold markAt at h
  split at h
  · simp only at h
    split at h
    · rename_i h8; cases h; exact Or.inl ⟨by simpa using h8, rfl⟩
    · split at h
      · rename_i h7; cases h; exact Or.inr ⟨by simpa using h7, rfl⟩
      · cases h
  · cases h
  · cases h

/-- **`mark`**: on success exactly one atom – an oxygen or a nitrogen – has become the marker of its kind (O-marker for O, N-marker
    for N); every other atom, every ring / isomorphism flag and every bond is what it was. -/
theorem mark_spec (v : View) (x : Numbering) (pos oZ nZ : Nat) (v' : View) (h : mark v x pos oZ nZ = .ok v') :
    ∃ r, (((v.at r).z = 8 ∧ v' = v.setZ r oZ) ∨ ((v.at r).z = 7 ∧ v' = v.setZ r nZ)) ∧
      (∀ j, j ≠ r → v'.at j = v.at j) ∧ v'.adj = v.adj ∧ v'.atoms.length = v.atoms.length := by
  unfold mark at h
  split at h <;> cases h
  rename_i r z hm
  exact ⟨r, (markAt_elem hm).imp (.imp_right (congrArg (v.setZ r))) (.imp_right (congrArg (v.setZ r))),
    setZ_at_ne v r z, rfl, setZ_length v r z⟩

theorem at_lt_of_z {v : View} {r : Nat} (h : (v.at r).z ≠ 0) : r < v.atoms.length :=
  Nat.lt_of_not_le fun hge => h (by simp [View.at, List.getD_eq_getElem?_getD, List.getElem?_eq_none hge])

/-- **A marked atom is never marked again**: after `mark` has turned atom `r` into a marker (an element other than O and N), every
    later successful `mark` on the residue – for the same or another position, with any numbering – chooses a different atom. -/
theorem mark_never_reuses (v : View) (x x' : Numbering) (pos pos' oZ nZ oZ' nZ' r z r' z' : Nat)
    (hm : oZ ≠ 8 ∧ oZ ≠ 7 ∧ nZ ≠ 8 ∧ nZ ≠ 7)
    (h1 : markAt v x pos oZ nZ = .ok (r, z)) (h2 : markAt (v.setZ r z) x' pos' oZ' nZ' = .ok (r', z')) : r' ≠ r := by
  rintro rfl
  have hz := markAt_elem h1
  have hz2 := markAt_elem h2
  -- the first call gave the atom the element `z`, a marker, so the second cannot have found an O or N there
  rw [(setZ_at_self v r' z (at_lt_of_z (by omega))).1] at hz2
  omega

end Gly.EnumC
