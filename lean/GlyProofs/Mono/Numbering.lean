import GlyModel.Mono.EnumSpec
import GlyProofs.Smiles.Force
namespace Gly.EnumC
open Gly.Smi

/-- for every anomer-less row of the table (the a / b rows have the same atoms and bonds: `C08_anomers_one_mark_*`) except the
    branched-chain sugars listed, the Model of the code's numbering and the chemistry-level numbering give the same main chain -/
def numberingOk (t : List Gen.MonoRow) (except_ : List String) : Bool :=
  t.all (fun r => (r.key.take 2 == ['A', '_'] || r.key.take 2 == ['B', '_']) || except_.contains (String.ofList r.key) ||
    (match semOfChars r.smiles with
     | some m => (specChain m).isSome && specChain m == modelChain m
     | none => false))

/-- for every anomer-less row (except the listed branched-chain sugars) the reactor's anchor `ring_c` is the number of the anomeric
    carbon: position-less groups go to the anomeric carbon (`OMe`) or the carbon after it (`NAc`, …) -/
def anchorOk (t : List Gen.MonoRow) (except_ : List String) : Bool :=
  t.all (fun r => (r.key.take 2 == ['A', '_'] || r.key.take 2 == ['B', '_']) || except_.contains (String.ofList r.key) ||
    (match semOfChars r.smiles with
     | some m => (specAnchor m).isSome && specAnchor m == modelAnchor m
     | none => false))

-- one evaluation per table for both facts: they decode the same rows and run the same `enumerate`, which the kernel then
-- computes once; `semOfChars_nf` hands both the decoded molecule in normal form
theorem numbering_anchor_pyranose :
    numberingOk Gen.pyranoseTable ["API", "ERWINIOSE", "YER"] = true ∧ anchorOk Gen.pyranoseTable ["API", "ERWINIOSE", "YER"] = true := by
  simp only [numberingOk, anchorOk, semOfChars_nf]
  decide +kernel

theorem numbering_anchor_furanose :
    numberingOk Gen.furanoseTable ["API"] = true ∧ anchorOk Gen.furanoseTable ["API"] = true := by
  simp only [numberingOk, anchorOk, semOfChars_nf]
  decide +kernel

end Gly.EnumC
