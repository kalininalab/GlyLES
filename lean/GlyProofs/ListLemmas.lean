/-
  Facts about lists that more than one region of the proofs uses.
-/
namespace Gly

/-- a running maximum dominates its start value and every element, and is the start value or attained -/
theorem foldl_max_spec {α} (f : α → Nat) (l : List α) (init : Nat) :
    init ≤ l.foldl (fun m a => max m (f a)) init ∧ (∀ a ∈ l, f a ≤ l.foldl (fun m a => max m (f a)) init) ∧
    (l.foldl (fun m a => max m (f a)) init = init ∨ ∃ a ∈ l, l.foldl (fun m a => max m (f a)) init = f a) := by
  -- the fold is the maximum of `init :: l.map f`, which core characterises
  have h := List.max?_eq_some_iff.mp (List.max?_cons' (x := init) (xs := l.map f))
  rw [List.foldl_map] at h
  simp only [List.mem_cons, List.mem_map, forall_eq_or_imp, forall_exists_index, and_imp, forall_apply_eq_imp_iff₂] at h
  exact ⟨h.2.1, h.2.2, h.1.imp_right fun ⟨a, ha, e⟩ => ⟨a, ha, e.symm⟩⟩

/-- `f` is injective on a list whose images are pairwise different -/
theorem injOn_of_map_pairwise {α β} {f : α → β} {l : List α} (h : (l.map f).Pairwise (· ≠ ·)) {x y : α} (hx : x ∈ l) (hy : y ∈ l) :
    f x = f y → x = y :=
  -- the implication holds of every element with itself, and of two elements at different positions in either order
  have h := List.pairwise_map.mp h
  List.Pairwise.forall_of_forall_of_flip (R := fun a b => f a = f b → a = b) (fun _ _ _ => rfl)
    (h.imp fun ne e => absurd e ne) (h.imp fun ne e => absurd e.symm ne) hx hy

end Gly
