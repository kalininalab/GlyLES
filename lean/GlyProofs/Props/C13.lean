import GlyProofs.Smiles.OneCentre
import GlyModel.Api.Query
import GlyModel.Poly.Plan
/-
  C13 — Reducing-end anomer and SMILES start atom change only what they should.
-/
namespace Gly.Props.C13
open Gly.Query

theorem C13_suffix_wins (c opt : Char) : rootConfig (some c) opt = some c := rfl

theorem C13_option_used_without_suffix (opt : Char) :
    rootConfig none opt = (if opt.toLower == 'a' then some 'a' else if opt.toLower == 'b' then some 'b' else none) := rfl

theorem C13_unknown_option_is_undefined (opt : Char) (ha : opt.toLower ≠ 'a') (hb : opt.toLower ≠ 'b') :
    rootConfig none opt = none := by
  simp [rootConfig, ha, hb]

/-- Fallback of the start atom: a `start` that matches no atom or several atoms falls back to C1 (after the repair of
    D14; before it, several matches raised). -/
theorem C13_start_fallback (numbers : List Int) (start : Int)
    (h : ((List.range numbers.length).filter (fun i => numbers.getD i 0 == start)).length ≠ 1) :
    startAtom numbers start = startAtom numbers 1 := by
  unfold startAtom
  split
  · rename_i i hi; rw [hi] at h; exact absurd rfl h
  · -- the right-hand side tries the lookup for 1 twice: the same result, whatever that lookup finds
    generalize (List.range numbers.length).filter (fun i => numbers.getD i 0 == 1) = l
    rcases l with _ | ⟨i, _ | _⟩ <;> rfl

theorem C13_start_examples :
    startAtom [100, 1, 0, 2, 0, 3, 0, 4, 0, 5, 6, 0] 0 = some 1 ∧      -- start = 0 matches every unnumbered atom: fall back to C1
    startAtom [100, 1, 0, 2, 0, 3, 0, 4, 0, 5, 6, 0] 4 = some 7 ∧
    startAtom [100, 1, 0, 2, 0, 3, 0, 4, 0, 5, 6, 0] 50 = some 1 ∧
    startAtom [100, 1, 0, 2, 0, 3, 0, 4, 0, 5, 6, 0] 100 = some 0 := by decide

open Gly.Smi in
/-- **A stereo mark is local to its atom.** If two SMILES have the same shape – position by position the same token, or an
    atom in both (e.g. `[C@H]` / `[C@@H]` / `C` at the reducing end's anomeric carbon) – they denote the same bonds, the same
    ordered neighbour lists and the same ring closures; the molecules differ exactly in the texts of the atoms that were
    written differently. Applied to the root's a / b / undefined boundary strings: declaring the anomer changes one atom
    token and nothing else, however many children are grafted elsewhere (`C01_graft` keeps every other token). -/
theorem C13_mark_is_local (ts ts' : List Tok) (hf : ShapeList ts ts') (x : St) (h : run St.init ts = some x) :
    ∃ x', run St.init ts' = some x' ∧ x'.evs = x.evs ∧ x'.stack = x.stack ∧ x'.opens = x.opens ∧
      x.atoms = atomsOf ts ∧ x'.atoms = atomsOf ts' := by
  obtain ⟨x', hx', hb⟩ := run_shape hf ⟨rfl, rfl, rfl, rfl, rfl, rfl⟩ h
  exact ⟨x', hx', hb.evs, hb.stack, hb.opens, run_init_atoms h, run_init_atoms hx'⟩

open Gly.Smi in
/-- **Declaring the anomer changes exactly one atom of the whole glycan.** Two reducing-end residue strings that are equal except
    for the text of one atom token (`a` / `b`: `[C@H]`, `[C@@H]` or `C` at the anomeric carbon, as in the a / b / plain rows of
    the library, `C08_anomers_one_mark_*`), carrying the same children – of any depth – at the same markers: the two Spec
    molecules have the same bond events (bonds, ring closures, ordered neighbour lists) and the same atoms except exactly
    that one. By `C01_tree_refines_spec` the assembled strings denote these two molecules. -/
theorem C13_one_centre_whole_glycan (t1 t2 : List Tok) (a b : Atom) (kids : List (Atom × Bool × TNode)) (M : Mol)
    (hm : ∀ m ∈ markersOf kids, m ≠ a ∧ m ≠ b)
    (hs : specTree (.mk (t1 ++ [Tok.atom a] ++ t2) kids) = some M) :
    ∃ M', specTree (.mk (t1 ++ [Tok.atom b] ++ t2) kids) = some M' ∧ M.evs = M'.evs ∧
      ∃ pre post, M.atoms = pre ++ [a] ++ post ∧ M'.atoms = pre ++ [b] ++ post :=
  specTree_oneOff t1 t2 a b kids M hm hs

open Gly.Plan in
/-- **The option reaches exactly one call**: in the binding plan (Model of `Merger.mark` / `merge_int`, `C01_linkage_plan`; tied by the
    call sequences observed for every root-anomer option) the label `Merger.merge` builds from `root_orientation` is looked at by
    the entry action of node 0 only – every other call (which carbon is marked with which marker pair, which child takes which
    anomer, where each child's SMILES starts, ring offsets) is the same for every value of the option. -/
theorem C13_option_only_reaches_root {α : Type} (T : Trav α) (w : WalkCfg) (F : GF) (a : α) (ro1 ro2 : List Char) :
    ∃ tail : Option (List Call),
      specWhole T w F (rootLabel ro1) a = tail.map (T.pre 0 (rootLabel ro1) a ++ ·) ∧
      specWhole T w F (rootLabel ro2) a = tail.map (T.pre 0 (rootLabel ro2) a ++ ·) :=
  ⟨specPlan T w F 0 1 0 a, rfl, rfl⟩

open Gly.Plan in
/-- … and that one call is `to_chirality(first letter of the option, lower-cased)` on the reducing-end residue, made only when the
    residue has no anomer of its own (a written suffix wins). -/
theorem C13_root_call (undef : Nat → Bool) (ns : Nat) (c : Char) (rest : List Char) :
    (markTrav undef ns).pre 0 (rootLabel (c :: rest)) () = if undef 0 then [Call.chir 0 c.toLower] else [] := by
  simp [markTrav, rootLabel]

end Gly.Props.C13
