import GlyModel.Front.Model
import GlyProofs.Mono.CreateLemmas
/-
  C06 — The three notations are one language.
-/
namespace Gly

/-- a text without parenthesis or dash: an anomer symbol, a position (`NUM` or `?`) -/
def NoSep (l : List Char) : Prop := ∀ c ∈ l, c ≠ '(' ∧ c ≠ ')' ∧ c ≠ '-'

end Gly

namespace Gly.Props.C06
open Gly.Model

theorem noSep_not_mem {l : List Char} (h : NoSep l) : '(' ∉ l ∧ ')' ∉ l ∧ '-' ∉ l :=
  ⟨fun hm => (h _ hm).1 rfl, fun hm => (h _ hm).2.1 rfl, fun hm => (h _ hm).2.2 rfl⟩

/-- Linkage normal form, fully parenthesised shapes `( t i - j )` and `( i - j )`: kept as written. -/
theorem C06_edge_full (w : WalkCfg) (child : Recipe) (body : List Char) :
    normLabel w child ('(' :: body) = '(' :: body := by
  simp [normLabel]

/-- Condensed shape `t i - j` (any anomer symbol, any child and parent position – arbitrary texts without
    parentheses or dash, so every `NUM` and `?`): the walker re-inserts exactly the parentheses. -/
theorem C06_edge_condensed (w : WalkCfg) (child : Recipe) (t i j : List Char)
    (ht : NoSep t) (hi : NoSep i) (hj : NoSep j) :
    normLabel w child (t ++ i ++ ['-'] ++ j) = '(' :: (t ++ i ++ ['-'] ++ j) ++ [')'] := by
  simp [normLabel, noSep_not_mem ht, noSep_not_mem hi, noSep_not_mem hj]

/-- Short shape `t j`: the walker re-inserts the parentheses and the default child position. -/
theorem C06_edge_short (w : WalkCfg) (child : Recipe) (t : Char) (j : List Char)
    (ht : t ≠ '(' ∧ t ≠ ')' ∧ t ≠ '-') (hj : NoSep j) :
    normLabel w child (t :: j) = '(' :: t :: (if w.ketose2 child then '2' else '1') :: '-' :: j ++ [')'] := by
  simp only [normLabel, List.contains_eq_mem, List.mem_cons, noSep_not_mem hj, ht.1.symm, ht.2.1.symm, ht.2.2.symm]
  cases w.ketose2 child <;> rfl

/-- For any walker configuration, with the default position its own 2-ketose test gives: short, condensed and full notation of
    the same linkage give the same edge label. -/
theorem notation_invariant (w : WalkCfg) (child : Recipe) (t : Char) (j : List Char)
    (ht : t ≠ '(' ∧ t ≠ ')' ∧ t ≠ '-') (hj : NoSep j) :
    let d : Char := if w.ketose2 child then '2' else '1'
    normLabel w child (t :: j) = normLabel w child ([t] ++ [d] ++ ['-'] ++ j) ∧
    normLabel w child (t :: j) = normLabel w child ('(' :: ([t] ++ [d] ++ ['-'] ++ j ++ [')'])) := by
  intro d
  have hd : NoSep [d] := List.forall_mem_singleton.mpr (by simp only [d]; split <;> decide)
  have htl : NoSep [t] := List.forall_mem_singleton.mpr ht
  rw [C06_edge_short w child t j ht hj, C06_edge_condensed w child [t] [d] j htl hd hj, C06_edge_full]
  simp [d]

/-- Hence, for a walker whose default-position test is the Spec's (`isKetose2Spec`: the child's table entry is
    in `ketoses2`), short, condensed and full notation of the same linkage give the same edge label: 2 for
    2-ketoses, 1 otherwise. This is the full-strength statement of the linkage clause of C06. -/
theorem C06_notation_invariant_spec (nf : Recipe → Bool) (child : Recipe) (t : Char) (j : List Char)
    (ht : t ≠ '(' ∧ t ≠ ')' ∧ t ≠ '-') (hj : NoSep j) :
    let w : WalkCfg := ⟨Gen.frontCfg.tTYPE, nf, isKetose2Spec⟩
    let d : Char := if isKetose2Spec child then '2' else '1'
    normLabel w child (t :: j) = normLabel w child ([t] ++ [d] ++ ['-'] ++ j) ∧
    normLabel w child (t :: j) = normLabel w child ('(' :: ([t] ++ [d] ++ ['-'] ++ j ++ [')'])) :=
  notation_invariant ⟨Gen.frontCfg.tTYPE, nf, isKetose2Spec⟩ child t j ht hj

/-- The pinned code's test `(get_lactole, get_name()) in ketoses2` pairs a bound method with the name, so it is
    constantly false (`Model.ketose2`): the same statement for the Model holds only for children that are *not*
    2-ketoses (`_partial`) … -/
theorem C06_notation_invariant_partial (nf : Recipe → Bool) (child : Recipe) (t : Char) (j : List Char)
    (ht : t ≠ '(' ∧ t ≠ ')' ∧ t ≠ '-') (hj : NoSep j) (hk : isKetose2Spec child = false) :
    let w : WalkCfg := ⟨Gen.frontCfg.tTYPE, nf, Model.ketose2⟩
    let d : Char := if isKetose2Spec child then '2' else '1'
    normLabel w child (t :: j) = normLabel w child ('(' :: ([t] ++ [d] ++ ['-'] ++ j ++ [')'])) := by
  rw [hk]   -- on this child the constant test agrees with the Spec's
  exact (notation_invariant ⟨Gen.frontCfg.tTYPE, nf, Model.ketose2⟩ child t j ht hj).2

/-- … and fails for 2-ketose children: `Neu5Ac a3 …` is read as `(a1-3)` although `Neu` is in `ketoses2`
    (replayed on the real code by the check: known finding D5). -/
theorem C06_default_pos_counterexample :
    let neu : Recipe := [("Neu".toList, Gen.frontCfg.tSAC), ("5Ac".toList, Gen.frontCfg.tMOD)]
    isKetose2Spec neu = true ∧
    normLabel Model.walkCfgTreeOnly neu "a3".toList = "(a1-3)".toList ∧
    normLabel Model.walkCfgTreeOnly neu "a3".toList ≠ "(a2-3)".toList := by
  decide +kernel

/-- Spelling out the pyranose default `p` does not change the table entry `create` resolves to. -/
theorem C06_ring_default (a b : Recipe) (config : List Char)
    (hnoR : firstOfType (a ++ b) Gen.frontCfg.tRING = none) :
    (create (a ++ ((['p'], Gen.frontCfg.tRING) :: b)) config).map (fun r => (r.table, r.key, r.row)) =
    (create (a ++ b) config).map (fun r => (r.table, r.key, r.row)) := by
  -- the first `RING` entry is now `p`, which like no entry at all is not `f`; no other entry is hidden
  have hR := firstOfType_insert_same (Option.or_eq_none_iff.mp (firstOfType_append .. ▸ hnoR)).1 ['p'] b
  rw [create_eq, create_eq, hR, hnoR, firstOfType_insert_other a b _ Gen.frontCfg.tSAC _ (by decide),
    firstOfType_insert_other a b _ Gen.frontCfg.tTYPE _ (by decide)]
  cases firstOfType (a ++ b) Gen.frontCfg.tSAC with
  | none => rfl
  | some name0 => exact resolve_forgets_recipe ..

/-- The reducing-end anomer written as suffix (`Xa`: a `TYPE` token closing the residue) or after a blank
    (`X a`: handed to `create` as `config`) gives the same key, the same table row and the same stored recipe. -/
theorem C06_anomer_suffix (r : Recipe) (c : List Char) (hc : c.isEmpty = false)
    (hnoT : firstOfType r Gen.frontCfg.tTYPE = none) :
    create (r ++ [(c, Gen.frontCfg.tTYPE)]) [] = create r c := by
  have hother := fun ty h => firstOfType_insert_other r [] c ty Gen.frontCfg.tTYPE h
  rw [List.append_nil] at hother
  rw [create_eq, create_eq, firstOfType_insert_same hnoT c [], hc, hother Gen.frontCfg.tSAC (by decide),
    hother Gen.frontCfg.tRING (by decide)]
  rfl

/-- Non-vacuity / sanity: concrete resolutions through the regenerated tables (token types 3 = `SAC`, 14 = `TYPE`, 15 = `RING`). -/
theorem C06_examples :
    (create [("Glc".toList, 3)] []).map (·.table) = some .pyranose ∧
    (create [("Glc".toList, 3), (['p'], 15)] []).map (·.table) = some .pyranose ∧
    (create [("Glc".toList, 3), (['f'], 15)] []).map (·.table) = some .furanose ∧
    (create [("Glc".toList, 3), (['a'], 14)] []).map (·.key) = some "a_Glc".toList ∧
    (create [("Glc".toList, 3)] ['a']).map (·.key) = some "a_Glc".toList ∧
    (create [("Unk".toList, 3)] []).map (·.table) = some .unknown := by
  decide +kernel

end Gly.Props.C06
