import GlyModel.Api.Convert
import GlyProofs.Mono.ReactLemmas
import GlyProofs.Front.Components
/-
  C10 — Nothing is dropped silently: the meaning of `full`.
-/
namespace Gly.Props.C10
open Gly.Api

/-- With `full = True` (and not `tree_only`) a non-empty result is released only when the tree was realised completely. -/
theorem C10_full_true (treeFull : Bool) (assembled : List Char) (h : gate false true treeFull assembled ≠ []) : treeFull = true := by
  cases treeFull <;> simp_all [gate]

/-- With `full = False` the assembled molecule is released whatever `tree_full` says – in particular every input
    that converts under `full = True` gives the same string. -/
theorem C10_full_false (treeOnly treeFull : Bool) (assembled : List Char) : gate treeOnly false treeFull assembled = assembled := by
  cases treeOnly <;> cases treeFull <;> simp [gate]

theorem C10_full_false_same_as_true (assembled : List Char) : gate false false true assembled = gate false true true assembled := rfl

/-- The pinned gate (`tree_full != full`) withheld every fully convertible glycan under `full = False`
    (observed before the repair: `Glycan("Glc", full=False).get_smiles() == ""`). -/
theorem C10_full_false_counterexample_pinned : gatePinned false false true ['O'] = [] := by decide

/-- How the walker accumulates `full`: it stays true through `addNodeEdge` iff the residue is realised (`nodeFull`)
    and – when an edge is added – the normalised label contains no `?`. -/
theorem C10_addNodeEdge_full (w : WalkCfg) (parent : Nat) (d : Recipe) (c : ConStr) (st : WState) (hp : parent ≠ st.nodes.length) :
    (addNodeEdge w parent d c st).2.full =
      (st.full && w.nodeFull d && !(normLabel w d c).contains '?') := by
  rw [addNodeEdge_eq w parent d c st hp]

/-- **`tree_full` over a whole forest** (any depth, any branching): after the walker has numbered a forest onto a node, `full` is
    still true iff it was true before and *every* residue of the forest is realised (`nodeFull`: known monosaccharide, every
    modification attached) and *no* linkage label contains `?`. Nothing is dropped silently: one unrealised residue or one
    undetermined linkage anywhere in the tree makes `full` false. -/
theorem C10_forest_full (w : WalkCfg) (F : GF) : ∀ (p : Nat) (st : WState), p < st.nodes.length →
    (flattenOnto w F p st).full = (st.full && allFull w F) ∧ st.nodes.length ≤ (flattenOnto w F p st).nodes.length := by
  intro p st hp
  rw [flattenOnto_eq w F p st hp]
  exact ⟨rfl, by simp⟩

/-- … hence for a whole glycan without floating fragments: `tree_full` (before the connectivity test) is the conjunction over the
    root residue and everything that hangs on it. -/
theorem C10_tree_full (w : WalkCfg) (s : Start) (hf : s.floats = []) :
    (walkStart w s).full =
      (w.nodeFull (if (s.begin.config.getD []).isEmpty then s.begin.d else s.begin.d ++ [(s.begin.config.getD [], w.tTYPE)]) &&
       (match s.begin.branch with | none => true | some br => allFull w (den br .nil))) := by
  rw [walkStart_nofloats w s hf]
  simp only [Start.forest, Props.C03.rootRecipe]
  cases s.begin.branch <;> rfl

open Gly.React in
/-- **The reactor's flag never recovers** (Model of `SMILESReaktor.react` over all its rounds, `React.reactLoop`, tied to reactor.py
    by the side-chain table of every round and the returned flag): if `react` reports `full`, the flag was true on entry – an
    unknown group seen in one round cannot be forgotten by a later round – for any number of rounds, any residue views, any tokens. -/
theorem C10_react_full_never_recovers (views : List View) (mods : List (List Char)) (startLen : Nat) (full : Bool)
    (acc cs : List Chains) (h : reactLoop views mods startLen full acc = .ok (cs, true)) : full = true := by
  induction views generalizing mods startLen full acc with
  | nil => simp [reactLoop] at h
  | cons v vs ih =>
    obtain ⟨st, hst, h2⟩ := bindO_eq_ok h
    -- the flag does not recover within the round, and each way out of the loop reports at most the flag the round ended with
    refine round_full hst ?_
    split at h2
    · cases h2
    · split at h2
      · exact (Prod.mk.inj (Outcome.ok.inj h2)).2
      · exact ih _ _ _ _ h2

open Gly.React in
/-- … within a round the flag is the flag before and'ed with "this token's group was recognised", token by token … -/
theorem C10_react_token_flag (v : View) (st st' : RState) (n : List Char) (h : reactToken v st n = .ok st') :
    ∃ e, tokenEffect v st.chains n = .ok e ∧ st'.full = (st.full && e.recognised) := by
  obtain ⟨e, he, hs⟩ := reactToken_ok h
  exact ⟨e, he, by rw [hs, applyEffect_full_eq]⟩

open Gly.React in
/-- … and a round that can attach none of the groups it was given (all postponed again: positions the residue does not have) ends
    the loop with `full = false`: nothing is dropped silently. -/
theorem C10_react_stall_not_full (v : View) (vs : List View) (mods : List (List Char)) (startLen : Nat) (full : Bool)
    (acc : List Chains) (st : RState) (hst : reactRoundFrom v mods full = .ok st) (hstall : st.higher.length = startLen) :
    reactLoop (v :: vs) mods startLen full acc = .ok (acc ++ [st.chains], false) := by
  unfold reactLoop
  simp [hst, bindO_pure, hstall]

open Gly.React in
/-- Non-vacuity: `Glc7S` – position 7 does not exist, the only modification is postponed, the next round stalls: not full;
    `Glc6S` is full after one round. -/
theorem C10_react_examples :
    let glc : View := ⟨"Glc".toList, 6, [none, some 'O', some 'O', some 'O', some 'O', none, some 'O', none], 1, 6⟩
    (reactAll [glc, glc] ["7S".toList] 2).map' (·.2) = some false ∧ (reactAll [glc] ["6S".toList] 2).map' (·.2) = some true := by
  decide +kernel

/-- **The connectivity clause of `TreeWalker.parse`** (`self.full and len(connected_components(g)) == 1`, Model `parseFull` with
    components counted by label merging): a glycan written without floating `{…}` parts is one component – every residue hangs on
    node 0 – so the clause changes nothing … -/
theorem C10_connected_without_fragments (w : WalkCfg) (s : Start) (hf : s.floats = []) :
    components (walkStart w s) = 1 ∧ parseFull (walkStart w s) = (walkStart w s).full := by
  have h := components_walkStart w s
  rw [hf] at h
  exact ⟨h, by simp [parseFull, h]⟩

/-- … and in general, whenever every edge leads to a node that was never a child before (what the walker produces), the number of
    components is nodes minus edges: each floating part, whatever its size, is one more component and `parse` reports not full. -/
theorem C10_components_count (st : WState) (h : EdgesFresh st.nodes.length 0 st.edges) :
    components st + st.edges.length = st.nodes.length := components_fresh st h

/-- **Floating parts are never full** – for every written glycan, any number of floating `{…}` parts of any size and shape: the walked
    graph has exactly one component for the main glycan plus one per floating part (`components_walkStart`: every edge the walker adds
    leads to a node that was never a child before, so it removes exactly one component), hence `parse` reports *not full* as soon
    as there is a floating part, and the clause is void without one. -/
theorem C10_fragments_not_full (w : WalkCfg) (s : Start) :
    components (walkStart w s) = 1 + s.floats.length ∧
    (s.floats ≠ [] → parseFull (walkStart w s) = false) ∧
    (s.floats = [] → parseFull (walkStart w s) = (walkStart w s).full) := by
  have h := components_walkStart w s
  refine ⟨h, fun hne => ?_, fun he => (C10_connected_without_fragments w s he).2⟩
  simp [parseFull, h, hne]

/-- Non-vacuity: a two-residue floating part, `{Fuc(a1-2)Gal(b1-5)}Gal(b1-4)Glc` with every position written – so that the
    walker's own flag stays true: two components, hence not full. -/
theorem C10_fragment_example :
    let w : WalkCfg := ⟨0, fun _ => true, fun _ => false⟩
    let r (x : String) : Recipe := [(x.toList, 1)]
    let s : Start := ⟨[Branch.chain (r "Fuc") "(a1-2)".toList (Branch.leaf (r "Gal") "(b1-5)".toList)],
                      ⟨some (Branch.leaf (r "Gal") "(b1-4)".toList), r "Glc", none⟩⟩
    components (walkStart w s) = 2 ∧ parseFull (walkStart w s) = false ∧ (walkStart w s).full = true := by
  decide +kernel

end Gly.Props.C10
