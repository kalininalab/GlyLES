import GlyModel.Smiles.Tokenize
import GlyProofs.Smiles.Relabel
import GlyProofs.Smiles.TreeTheorem
import GlyProofs.Api.LifecycleLemmas
/-
  C02 — Every non-empty result is a valid, whole, placeholder-free molecule.
-/
namespace Gly.Props.C02

/-- The release gate of `Glycan` (added by the C02 repair): a candidate string is handed out only if the validity
    predicate accepts it; everything else becomes the empty string. `valid` stands for RDKit's verdict
    (parses, sanitises, one fragment, no marker element, no empty branch). -/
def release (valid : List Char → Bool) (s : List Char) : List Char := if s.isEmpty then s else if valid s then s else []

/-- Decision logic stated outright: whatever the assembly produced, a non-empty released string is valid. -/
theorem C02_gate (valid : List Char → Bool) (s : List Char) (h : release valid s ≠ []) : valid (release valid s) = true :=
  -- `release` here and `Life.release` are the same function
  (Life.release_deliverable valid s).resolve_left h

/-- The gate never alters a valid result. -/
theorem C02_gate_transparent (valid : List Char → Bool) (s : List Char) (h : valid s = true) : release valid s = s := by
  simp only [release, h, if_true, ite_self]

/-- The two marker-element tables of `assemble_chains` (regenerated from the source) and the linkage markers are
    pairwise distinct elements: a substitution for one marker can never hit another. -/
theorem C02_marker_tables_disjoint :
    let o := (Gen.placeholderO.map (·.2)).filter (· ≠ [])
    let c := (Gen.placeholderC.map (·.2)).filter (· ≠ [])
    (o ++ c).Nodup ∧ (Gen.dummyAtoms.flatMap (fun (a, b) => [a.2, b.2])).Nodup := by
  decide +kernel

open Gly.Smi in
/-- Ring labels are names: the per-level renumbering of `Monomer.to_smiles` (adding `ring_index` to every label – an injective
    renaming) never changes the molecule, as long as the renamed labels can still be *written*. -/
theorem C02_shift_preserves_molecule (k : Nat) (ts : List Tok) (x : St) (h : run St.init ts = some x) :
    ∃ x', run St.init (ts.map (relabelTok (· + k))) = some x' ∧ x'.atoms = x.atoms ∧
      x'.evs.map Ev.unlabel = x.evs.map Ev.unlabel ∧ x'.closed = x.closed :=
  relabel_same_molecule (· + k) (by intro a b h; simpa using h) ts x h

open Gly.Smi Gly.Asm in
/-- … and they can be written exactly when they are below 100: `shift` prints one digit or `%` and two digits, which the
    SMILES reader takes back as the same label for every label < 100 … -/
theorem C02_labels_valid_below_100 :
    (List.range 100).all (fun n => tokenize (shiftLabel ['0'] n) == some [Tok.ring n]) = true := by
  decide +kernel

open Gly.Smi Gly.Asm in
/-- … while 100 is printed as `%100`, which reads back as label 10 followed by label 0 (observed: a chain of depth 99;
    now withheld by the release gate). -/
theorem C02_label_100_counterexample :
    tokenize (shiftLabel ['0'] 100) = some [Tok.ring 10, Tok.ring 0] := by
  decide +kernel

open Gly.Smi in
/-- **No marker survives, nothing stays open** – for every well-formed tree of residue strings (`wfTree`, any depth and
    width): the assembled string is a closed SMILES (every branch closed, every ring label paired, no dangling bond symbol)
    and none of its atoms is a marker atom. -/
theorem C02_no_marker_survives (isMk : Atom → Bool) (hN : isMk ['N'] = false) (t : TNode) (h : wfTree isMk t = true) :
    (∃ M, sem (mergeTok t) = some M ∧ ∀ a ∈ M.atoms, isMk a = false) := by
  obtain ⟨M, h1, _, h3⟩ := tree_sound isMk hN t h
  exact ⟨M, h1, h3⟩

open Gly.Smi in
/-- **`sanitize_smiles` keeps the molecule** – its `))` rule: a branch that ends a branch is written without its own parentheses.
    For every prefix, suffix and inner branch `T` that is balanced on its own, `pre ( T )) post` and `pre T ) post` denote the same
    molecule (same atoms, same bond events in the same order) or are both not SMILES. Any length, any nesting. -/
theorem C02_sanitize_rr_sound (pre post T : List Tok) (s s1 : St) (a : Nat) (hpre : run St.init pre = some s)
    (hp : s.prev = some a) (hpe : s.pend = none)
    (hT : run { s with stack := [] } T = some s1) (hs : s1.stack = []) (hq : s1.pend = none) :
    sem (pre ++ (Tok.lpar :: (T ++ [Tok.rpar, Tok.rpar])) ++ post) = sem (pre ++ (T ++ [Tok.rpar]) ++ post) := by
  unfold sem
  rw [run_append, run_append, hpre, run_append, run_append, hpre]
  simp only [Option.bind_some, inline_last_branch s s1 T a hp hpe hT hs hq]

open Gly.Smi in
/-- Its other rule (`((`: a branch that starts a branch loses its parentheses) is **not** semantics-preserving: `C((C)O)N` would
    become the chain `C(CO)N`. RDKit does not parse such a string, the assembly never writes one (every block that replaces a
    marker starts with an atom), and every run counts how often `sanitize_smiles` was handed one (must be 0). -/
theorem C02_sanitize_ll_counterexample :
    let c := Tok.atom ['C']; let o := Tok.atom ['O']; let n := Tok.atom ['N']
    sem [c, .lpar, .lpar, c, .rpar, o, .rpar, n] ≠ sem [c, .lpar, c, o, .rpar, n] := by
  decide

open Gly.Smi in
/-- Non-vacuity of `C02_sanitize_rr_sound`: the N-link splice `C(N(CO))O` ↦ `C(NCO)O`. -/
example :
    let c := Tok.atom ['C']; let o := Tok.atom ['O']; let n := Tok.atom ['N']
    sem [c, .lpar, n, .lpar, c, o, .rpar, .rpar, o] = sem [c, .lpar, n, c, o, .rpar, o] ∧
    (sem [c, .lpar, n, c, o, .rpar, o]).isSome = true := by
  decide

open Gly.Life in
/-- **Nothing leaves a `Glycan` object unchecked** (Model `Life.construct` / `Life.getSmiles` of `__parse`, `get_smiles`, `__release`;
    tied to glycan.py by comparing what consecutive `get_smiles()` calls return with the Model fed with the observed walk / merge /
    release results): for every option combination, eager or lazy assembly, first or repeated call, the string handed out is empty
    or has passed the release gate, and the object stays in such a state. -/
theorem C02_every_delivery_released (valid : List Char → Bool) (treeOnly full tfCtor : Bool) (merged : Option (List Char)) (o o' : Obj)
    (hc : construct valid treeOnly full tfCtor merged = some o)
    (tfLazy : Bool) (mergedLazy : Option (List Char)) (r : List Char) (h : getSmiles valid o tfLazy mergedLazy = some (r, o')) :
    Deliverable valid r ∧ Inv valid o' :=
  getSmiles_deliverable valid o o' tfLazy mergedLazy r (construct_spec hc).1 h

open Gly.Life in
/-- … and asking again returns the same string, whatever a repeated walk or merge would produce. -/
theorem C02_get_smiles_stable (valid : List Char → Bool) (treeOnly full tfCtor : Bool) (merged : Option (List Char)) (o o' : Obj)
    (hc : construct valid treeOnly full tfCtor merged = some o)
    (tf1 : Bool) (m1 : Option (List Char)) (r : List Char) (h : getSmiles valid o tf1 m1 = some (r, o'))
    (tf2 : Bool) (m2 : Option (List Char)) : ∃ o'', getSmiles valid o' tf2 m2 = some (r, o'') :=
  getSmiles_stable valid treeOnly full tfCtor merged o o' hc tf1 m1 r h tf2 m2

open Gly.Smi in
/-- **Why the ring offsets keep labels apart** (the invariant behind repair 11dc0af): if every ring label written in the parent
    before the splice point is at most `B` and every label of the child's block is above `B` – which `merge_int` arranges by
    shifting a child's labels by the parent's offset plus the number of the parent's rings – then no label of the block is open at
    the splice point: the label clause of `wfTree` (hypothesis of `C02_no_marker_survives`) holds by arithmetic. -/
theorem C02_label_windows (pre : List Tok) (S : St) (B : Nat) (labels : List Nat)
    (hrun : run St.init pre = some S) (hpre : ∀ l ∈ labelsOf pre, l ≤ B) (hblk : ∀ l ∈ labels, B < l) :
    labels.all (fun l => (lookupLabel l S.opens).isNone) = true :=
  labels_free_of_window pre S B labels hrun hpre hblk

end Gly.Props.C02
