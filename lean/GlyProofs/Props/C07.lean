import GlyProofs.Smiles.TreeOrder
import GlyProofs.Front.Forest
/-
  C07 — The order in which branches are written is immaterial.
-/
namespace Gly.Props.C07
open Gly.Smi

/-- **Splices at different markers commute**: the k-th child replaces the k-th marker wherever that marker sits, and it
    does not matter in which order the children are processed – provided no child contains the other's marker
    (markers are pairwise distinct elements, `C02_marker_tables_disjoint`, and children are merged before they are
    inserted, so they contain no marker at all). -/
theorem C07_splices_commute (m1 m2 : Atom) (b1 b2 ts : List Tok) (hne : m1 ≠ m2)
    (h12 : Tok.atom m2 ∉ b1) (h21 : Tok.atom m1 ∉ b2) :
    substTok m1 b1 (substTok m2 b2 ts) = substTok m2 b2 (substTok m1 b1 ts) :=
  splices_commute m1 m2 b1 b2 ts hne h12 h21

/-- **The order of the children is immaterial** (any number of children, any depth below them): for a well-formed residue,
    permuting its children – each keeping its marker – leaves the assembled string unchanged, token for token. -/
theorem C07_children_order_immaterial (isMk : Atom → Bool) (hN : isMk ['N'] = false) (toks : List Tok)
    (kids kids' : List (Atom × Bool × TNode)) (hp : kids.Perm kids') (hwf : wfTree isMk (.mk toks kids) = true) :
    mergeTok (.mk toks kids') = mergeTok (.mk toks kids) :=
  mergeTok_perm isMk hN toks kids kids' hp hwf

/-- **Which marker element stands for which child is immaterial**: writing the branches of a residue in another order gives the
    k-th *written* child the k-th marker pair, i.e. it permutes the children (`C07_children_order_immaterial`) *and* renames their
    markers. For a well-formed residue, renaming the markers in its string and in its child list by an injective map that fixes
    every non-marker atom leaves the assembled string unchanged. (That RDKit writes the marked residue with the same string up to
    the marker names is the boundary hypothesis, checked as molecules on every sampled permutation.) -/
theorem C07_marker_names_immaterial (isMk : Atom → Bool) (hN : isMk ['N'] = false) (ρ : Atom → Atom)
    (hinj : ∀ a b, ρ a = ρ b → a = b) (hfix : ∀ a, isMk a = false → ρ a = a)
    (toks : List Tok) (kids : List (Atom × Bool × TNode)) (hwf : wfTree isMk (.mk toks kids) = true) :
    mergeTok (.mk (toks.map (mapTok ρ)) (kids.map fun kid => (ρ kid.1, kid.2.1, kid.2.2))) = mergeTok (.mk toks kids) :=
  mergeTok_rename isMk hN ρ hinj hfix toks kids hwf

/-- The walker computes the compositional reading (C03), in which bracketed branches and the main chain hang on the same parent,
    children in written order (`den`). -/
theorem C07_walk_children_order (w : WalkCfg) (s : Start) : walkStart w s = denStart w s := walkStart_eq_denStart w s

end Gly.Props.C07
