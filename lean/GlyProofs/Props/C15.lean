import GlyModel.Front.Model
import GlyProofs.Front.LexSpec
import GlyProofs.Front.AtnRtn
import GlyModel.Generated.Atn
import GlyModel.Generated.LexAtn
import GlyProofs.Front.LexChains
import GlyProofs.Front.ParseComplete
/-
  C15 — What is accepted is exactly the published grammar.
-/
namespace Gly.Props.C15

/-- The lexer Model is longest-match tokenisation over the token table regenerated from Glycan.g4:
    every token is in its rule's language, is non-empty, and no rule matches a longer prefix at its position;
    the token texts concatenate to the input. -/
theorem C15_lex_longest_match (inp : List Char) (ts : List Token) (h : lex Gen.lexRules inp = some ts) :
    MaxMunch Gen.lexRules inp ts ∧ (ts.map (·.text)).flatten = inp :=
  lex_spec h

/-- Soundness half of "accepted iff derivable": whatever the Model accepts tokenises by longest match and
    its whole sentinel-wrapped token stream is derived from the start rule of the grammar as it is in
    /repo now (the theorem is re-checked against the regenerated `Gen.grammar`). -/
theorem C15_accept_sound (s : List Char) (h : Model.accepts s = true) :
    ∃ ts, lex Gen.lexRules (Model.sentinel s) = some ts ∧
          MaxMunch Gen.lexRules (Model.sentinel s) ts ∧
          Derives Gen.grammar (.ref 0) ts := by
  unfold Model.accepts at h
  split at h
  · cases h
  · rename_i ts hl
    refine ⟨ts, hl, (lex_spec hl).1, ?_⟩
    unfold Model.parseTokens at h
    split at h
    · rename_i t hp
      obtain ⟨e, hd⟩ := firstParse_sound hp
      rw [List.append_nil] at e
      exact e ▸ hd
    · cases h

/-- Every parse the generic parser returns is a derivation, and its leaves are exactly the consumed tokens
    (for any grammar, any fuel). -/
theorem C15_parse_sound (g : Grammar) (fuel : Nat) (e : Rx) (inp : List Token) (k : List PT) (r : List Token)
    (h : (k, r) ∈ parseRx g fuel e inp) : inp = PT.yieldList k ++ r ∧ Derives g e (PT.yieldList k) :=
  parseRx_sound g h

/-- Completeness of the generic parser for ample fuel: whatever the grammar derives is found, for every continuation. -/
theorem C15_parse_complete (g : Grammar) (e : Rx) (w : List Token) (h : Derives g e w) :
    ∃ N, ∀ fuel, N ≤ fuel → ∀ r, ∃ k, (k, r) ∈ parseRx g fuel e (w ++ r) :=
  parseRx_complete g h

/-- **Accepted iff derivable**: for the grammar as regenerated from Glycan.g4, the recogniser accepts `s` for some fuel
    if and only if `#s#` tokenises by longest match and the whole token stream is a sentence of the start rule. -/
theorem C15_accept_iff (s : List Char) :
    (∃ fuel, Model.acceptsAny fuel s = true) ↔
    ∃ ts, lex Gen.lexRules (Model.sentinel s) = some ts ∧ Derives Gen.grammar (.ref 0) ts := by
  unfold Model.acceptsAny
  cases lex Gen.lexRules (Model.sentinel s) with
  | none => simp
  | some ts =>
    simp only [← parseRx_whole_iff, List.any_eq_true, List.isEmpty_iff, Prod.exists, Option.some.injEq, exists_eq_left']
    exact exists_congr fun fuel => ⟨fun ⟨k, r, h, e⟩ => ⟨k, e ▸ h⟩, fun ⟨k, h⟩ => ⟨k, [], h, rfl⟩⟩

/-- Non-vacuity: the Model accepts a branched glycan and rejects trailing text after the closing sentinel. -/
theorem C15_examples :
    Model.accepts "Man(a1-3)[Man(a1-6)]Man(b1-4)GlcNAc".toList = true ∧
    Model.accepts "Glc#Man".toList = false ∧ Model.accepts "Glc(a1-4)".toList = false := by
  decide +kernel

/-! ### the generated parser's data is the grammar (neither lags behind nor runs ahead of Glycan.g4) -/

open Gly.Atn in
theorem atn_rules_ok :
    Gen.parserAtn.length = Gen.grammar.rules.length ∧
    ((List.range Gen.grammar.rules.length).all (fun i => ruleOk (Gen.parserAtn.getD i default) (Gen.grammar.rule i))) = true := by
  decide +kernel

open Gly.Atn in
theorem atn_rule_ok (i : Nat) (hi : i < Gen.grammar.rules.length) :
    ruleOk (Gen.parserAtn.getD i default) (Gen.grammar.rule i) = true :=
  List.all_eq_true.mp atn_rules_ok.2 i (List.mem_range.mpr hi)

open Gly.Atn in
/-- **The serialized ATN of `GlycanParser.py` is the grammar of `Glycan.g4`, rule by rule**: for every parser rule, the rule's
    sub-automaton in the serialized ATN (regenerated from `GlycanParser.py` on every run) and the rule's right-hand side in the
    grammar file (regenerated from `Glycan.g4`) accept the same words over token types and rule references. Decided by a
    partial-derivative / subset-construction bisimulation whose checker is proved sound (`ruleOk_sound`) and evaluated by the
    kernel. What interprets this data (the ALL(*) runtime) stays in the trusted base and is tied by correspondence. -/
theorem C15_atn_matches_grammar (i : Nat) (hi : i < Gen.grammar.rules.length) (w : List Sym)
    (hw : ∀ s ∈ w, s ∈ alphabetOf (Gen.parserAtn.getD i default) (Gen.grammar.rule i)) :
    Flat (Gen.grammar.rule i) w ↔
      Path (Gen.parserAtn.getD i default) (Gen.parserAtn.getD i default).start w (Gen.parserAtn.getD i default).stop :=
  ruleOk_sound _ _ (atn_rule_ok i hi) w hw

open Gly.Atn in
/-- every token rule passes the one-pass check for lists of literals (`litRuleOk`: the two large rules FG and SAC do) or the
    general one (`lexRuleOk`: enumeration along the translator's rank, or the bisimulation check for `NUM`) -/
theorem lex_rules_ok :
    (List.range Gen.lexRules.length).all (fun i =>
      litRuleOk (Gen.lexerAtn.getD i default) (Gen.lexRules.getD i ⟨0, "", []⟩) ||
      lexRuleOk (Gen.lexerAtn.getD i default) (Gen.lexRules.getD i ⟨0, "", []⟩)) = true := by
  decide +kernel

open Gly.Atn in
/-- **The serialized ATN of `GlycanLexer.py` is the token table of `Glycan.g4`, token rule by token rule**: the i-th token rule of
    the lexer ATN has the token type of the i-th rule of the regenerated token table; if that rule is a list of literals, the
    rule's sub-automaton accepts exactly those literals (read off in one pass where the automaton is a bundle of literal chains,
    `chainsOk_sound`; else by enumeration along a kernel-checked rank, `wordsFrom_sound/complete`);
    if it has character ranges or a star (`NUM`), both accept the same words (`ruleOk_sound`). -/
theorem C15_lexer_atn_matches_token_table (i : Nat) (hi : i < Gen.lexRules.length) :
    let l := Gen.lexerAtn.getD i default
    let r := Gen.lexRules.getD i ⟨0, "", []⟩
    l.ty = r.ty ∧
    (∀ lits, literalsOf r = some lits → ∀ w, Path l.nfa l.nfa.start w l.nfa.stop ↔ w ∈ lits) ∧
    (literalsOf r = none → ∀ w, (∀ s ∈ w, s ∈ alphabetOf l.nfa (rxOfRule r)) →
      (Flat (rxOfRule r) w ↔ Path l.nfa l.nfa.start w l.nfa.stop)) := by
  intro l r
  rcases Bool.or_eq_true_iff.mp (List.all_eq_true.mp lex_rules_ok i (List.mem_range.mpr hi)) with hlit | hall
  · obtain ⟨hty, lits, hl, hp⟩ := litRuleOk_sound l r hlit
    rw [hl]
    exact ⟨hty, fun _ e => Option.some.inj e ▸ hp, nofun⟩
  · exact lexRuleOk_sound l r hall

open Gly.Atn in
/-- **The language of the serialized parser ATN is the language of `Glycan.g4`.** The token languages of the grammar's rules
    (`D g r w` = rule `r` derives the token string `w`, the notion `C15_accept_iff` is stated in) are the *least solution* of the
    recursive-transition-network equations of the ATN regenerated from `GlycanParser.py`: (i) rule `r` derives `w` iff `w` is the
    expansion of a word accepted by `r`'s sub-automaton, every token type expanded by a token of that type and every rule reference by
    a string that rule derives; (ii) every family of languages closed under these equations contains them. -/
theorem C15_parser_atn_language :
    (∀ r, r < Gen.grammar.rules.length → ∀ w, D Gen.grammar r w ↔
        ∃ σ, Path (Gen.parserAtn.getD r default) (Gen.parserAtn.getD r default).start σ (Gen.parserAtn.getD r default).stop ∧
          Expand (D Gen.grammar) σ w) ∧
    (∀ Y, RtnClosed Gen.parserAtn Y → (∀ r, Gen.grammar.rules.length ≤ r → ∀ w, D Gen.grammar r w → Y r w) →
        ∀ r w, D Gen.grammar r w → Y r w) :=
  rtn_language _ _ atn_rule_ok

end Gly.Props.C15
