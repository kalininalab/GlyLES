import GlyProofs.Smiles.TreeTheorem
import GlyModel.Mono.Assemble
import GlyProofs.Mono.ReactCommute
import GlyProofs.Mono.Numbering
/-
  C04 — A modification adds its named group at its named carbon, and only that.
-/
namespace Gly.Props.C04
open Gly.Gen

def parensBalanced (s : List Char) : Bool :=
  (s.foldl (fun (acc : Option Nat) c => match acc with
      | none => none
      | some d => if c == '(' then some (d + 1) else if c == ')' then (if d == 0 then none else some (d - 1)) else some d) (some 0)) == some 0

def ringDigits (s : List Char) : List Char := s.filter (fun c => '0'.toNat ≤ c.toNat && c.toNat ≤ '9'.toNat)

/-- Over the complete regenerated `functional_groups` table: every fragment has balanced parentheses, no empty branch,
    no placeholder bracket, and every ring-closure digit occurs an even number of times (closed within the fragment). -/
theorem C04_fg_fragments_wellformed :
    functionalGroups.all (fun (_, v) =>
      parensBalanced v && !(['(', ')'].isPrefixOf v) &&
      (ringDigits v).all (fun d => (ringDigits v).count d % 2 == 0)) = true := by
  decide +kernel

/-- Keys of the table are unique and every name in `preserve_elem` is a key of the table. -/
theorem C04_tables_consistent :
    (functionalGroups.map (·.1)).Nodup ∧
    preserveElem.all (fun k => (functionalGroups.map (·.1)).contains k) = true :=
  ⟨Smi.nodup_of_keyCodes (by decide +kernel), by decide +kernel⟩

/-- `assemble_chains` bumps the digit `2` only: fragments using ring labels other than 2 are exactly these
    (Fmoc, NAP), for which a bicyclic residue would re-use label 3. -/
theorem C04_fragments_with_other_labels :
    (functionalGroups.filter (fun (_, v) => (ringDigits v).any (· != '2'))).map (·.1) = ["Fmoc".toList, "NAP".toList] := by
  decide +kernel

open Gly.React in
/-- **A single positional modification**: for every residue view (any sugar, any number of carbons), every position `p`
    within the residue whose `find_oxygen` atom is `e`, and every group name that takes the plain branch (`plainSide`,
    decided on the token text), the first round of `react` on `<p><name>` writes exactly one cell: position `p`, the O-slot
    (the C-slot if `e` is a carbon), containing the position's own element iff the name is in `preserve_elem`, followed by the
    table's fragment – every other cell stays empty, and the residue stays `full`. -/
theorem C04_single_mod (v : View) (c0 : Char) (rest val : List Char) (e : Char)
    (hside : plainSide c0 rest = true)
    (hp : c0.toNat - '0'.toNat ≤ v.ncarbon)
    (he : v.elemAt.getD (c0.toNat - '0'.toNat) none = some e)
    (hv : fgLookup rest = some val) :
    reactRound v [c0 :: rest] =
      .ok ⟨setCell (initChains v) (c0.toNat - '0'.toNat) (if e == 'C' then 1 else 0)
             (· ++ (let elem : List Char := if Gen.preserveElem.contains rest then [e] else []
                    let be := if elem == ['C'] then [] else elem
                    if be == ['P'] then "OP(=O)(O)".toList else be) ++ val),
           [], true⟩ := by
  have hlen : (initChains v).length = 1 + v.ncarbon := by simp [initChains]
  simp only [reactRound, reactRoundFrom, List.foldl_cons, List.foldl_nil, bindO_pure]
  rw [reactToken_eq_stepOp, tokenOp_plain _ hside (by rw [hlen]; omega) he, bindO_pure, stepOp_cell _ rfl]
  simp only [opFn]
  rw [if_neg (by rw [hlen]; omega), show getCell (initChains v) _ _ = [] from getCell_replicate .., fgEdit_nil _ hv]
  rfl

open Gly.React in
/-- **Modifications at different positions compose independently of the order in which they are written**: for any residue
    view, two plain positional tokens at different positions (groups with a non-empty fragment) give the same `side_chains`,
    the same postponed list and the same `full` flag in either order. -/
theorem C04_commute (v : View) (c1 c2 : Char) (r1 r2 v1 v2 : List Char) (e1 e2 : Char)
    (hs1 : plainSide c1 r1 = true) (hs2 : plainSide c2 r2 = true)
    (hp1 : c1.toNat - '0'.toNat ≤ v.ncarbon) (hp2 : c2.toNat - '0'.toNat ≤ v.ncarbon)
    (he1 : v.elemAt.getD (c1.toNat - '0'.toNat) none = some e1) (he2 : v.elemAt.getD (c2.toNat - '0'.toNat) none = some e2)
    (hv1 : fgLookup r1 = some v1) (hv2 : fgLookup r2 = some v2) (hn1 : v1 ≠ []) (hn2 : v2 ≠ [])
    (hne : c1.toNat - '0'.toNat ≠ c2.toNat - '0'.toNat) :
    reactRound v [c1 :: r1, c2 :: r2] = reactRound v [c2 :: r2, c1 :: r1] := by
  let st0 : RState := ⟨initChains v, [], true⟩
  have hlen : st0.chains.length = 1 + v.ncarbon := by simp [st0, initChains]
  -- both tokens are `set_fg` operations on the cells of their positions, and both succeed on the fresh table
  have ho1 := tokenOp_plain st0.chains.length hs1 (by omega) he1
  have ho2 := tokenOp_plain st0.chains.length hs2 (by omega) he2
  simp only [reactRound, reactRoundFrom, List.foldl_cons, List.foldl_nil, bindO_pure]
  rw [reactToken_two ho1 ho2, reactToken_two ho2 ho1]
  exact stepOp_swap st0 rfl rfl hne (opFn_fg_ok _ _ (by omega) hv1 hn1) (opFn_fg_ok _ _ (by omega) hv2 hn2)

open Gly.React in
/-- the group names for which the side condition `plainSide` of `C04_single_mod` / `C04_commute` holds at every digit -/
def plainKeys : List (List Char) :=
  (Gen.functionalGroups.map (·.1)).filter (fun k => !k.isEmpty && ['1', '2', '3', '4', '5', '6', '7', '8', '9'].all (fun c => plainSide c k))

/-- The side conditions hold – by kernel evaluation over the complete regenerated table and all nine digits – for at least 120
    group names, among them S, Ac, Me, Bz, Bn, the halides, azide, the fatty acyl names …: the theorems above apply to every one of
    them on every sugar; the names that take another branch are listed. (`plainKeys` runs `plainSide` over the whole table; within
    one evaluation the kernel does that once, so the three facts are decided together.) -/
theorem plainKeys_facts :
    Nat.ble 120 plainKeys.length = true ∧
    [['S'], ['A', 'c'], ['M', 'e'], ['B', 'z'], ['B', 'n'], ['F'], ['C', 'l'], ['B', 'r'], ['I'], ['N', '3'], ['G', 'c'],
     ['L', 'a', 'u'], ['M', 'y', 'r'], ['P', 'a', 'm'], ['S', 't', 'e'], ['O', 'l', 'e'], ['T', 's'], ['T', 'B', 'S'], ['B', 'o', 'c']].all
      (fun k => plainKeys.contains k) = true ∧
    ((Gen.functionalGroups.map (·.1)).filter (fun k => !plainKeys.contains k)).all (fun k =>
      ["", "N", "NFo", "P", "PhNO2", "Phyt", "Piv", "Poc", "Pen", "Oct", "Ccr", "Phthi"].contains (String.ofList k)) = true := by
  decide +kernel

theorem C04_plain_keys_many : Nat.ble 120 plainKeys.length = true := plainKeys_facts.1

theorem C04_plain_keys_core :
    [['S'], ['A', 'c'], ['M', 'e'], ['B', 'z'], ['B', 'n'], ['F'], ['C', 'l'], ['B', 'r'], ['I'], ['N', '3'], ['G', 'c'],
     ['L', 'a', 'u'], ['M', 'y', 'r'], ['P', 'a', 'm'], ['S', 't', 'e'], ['O', 'l', 'e'], ['T', 's'], ['T', 'B', 'S'], ['B', 'o', 'c']].all
      (fun k => plainKeys.contains k) = true :=
  plainKeys_facts.2.1

/-- the keys of the table that take another branch (bridge letters `N`/`P`/`O`/`C` not covered by the conflict lists) -/
theorem C04_non_plain_keys :
    ((Gen.functionalGroups.map (·.1)).filter (fun k => !plainKeys.contains k)).all (fun k =>
      ["", "N", "NFo", "P", "PhNO2", "Phyt", "Piv", "Poc", "Pen", "Oct", "Ccr", "Phthi"].contains (String.ofList k)) = true :=
  plainKeys_facts.2.2

/-! ### the string half of `assemble_chains`: placeholders replaced by fragments = graft of the fragments -/

open Gly.React Gly.Smi in
/-- Soundness of the certificate the driver evaluates on **every observed `assemble_chains` call** (the SMILES with placeholder
    atoms RDKit wrote, `side_chains`, the ring offset, and the residue SMILES the code stored): that SMILES denotes the
    residue-with-placeholders molecule with every functional-group fragment grafted at its placeholder atom – the group sits
    where the placeholder sat, and every other atom, bond event, ordered neighbour list and stereo mark of the residue is
    unchanged – and no placeholder atom is left. (Instance of the whole-tree theorem: the fragments are leaf children.) -/
theorem C04_certified_assemble (marked : List Char) (chains : List (List Char × List Char)) (offset : Nat) (final : List Char)
    (h : certifyAssemble marked chains offset final = true) :
    ∃ t tf M, assembleTree marked chains offset = some t ∧ tokenize final = some tf ∧
      sem tf = some M ∧ specTree t = some M ∧ ∀ a ∈ M.atoms, isMkPlaceholder a = false := by
  unfold certifyAssemble at h
  obtain ⟨_, h⟩ := Bool.and_eq_true_iff.mp h
  split at h
  · rename_i t tf ht hto
    obtain ⟨M, hM⟩ := treeCert_sound (isMk := isMkPlaceholder) (by decide +kernel) h
    exact ⟨t, tf, M, ht, hto, hM⟩
  · cases h

open Gly.React in
/-- Non-vacuity on the strings observed for `Gal3S6Ac` (two placeholders, explicit-hydrogen carbon next to one of them), and the
    Model's text is the code's text. -/
theorem C04_assemble_example :
    let marked := "O1C(O)[C@H](O)[C@@H]([AsH2])[C@@H](O)[C@H]1[CH2][SnH]".toList
    let chains : List (List Char × List Char) :=
      [([], []), ([], []), ([], []), ("OS(=O)(=O)O".toList, []), ([], []), ([], []), ("OC(=O)C".toList, [])]
    let final := "O1C(O)[C@H](O)[C@@H](OS(=O)(=O)O)[C@@H](O)[C@H]1COC(=O)C".toList
    assembleText marked chains 0 = final ∧ certifyAssemble marked chains 0 final = true := by
  decide +kernel

open Gly.EnumC in
/-- **Where position-less groups go**: the reactor anchors every modification written without a position on `ring_c` (`OMe`, bare
    groups) or `ring_c + 1` (`NAc`, `NS`, `PEtn`, … – `C04`'s Model `tokenEffect`). For every anomer-less row of both ring tables the
    Model of `ring_c` (smallest number of a carbon lying in the main ring only, on the Model of the code's numbering; tied to
    reactor.py by comparing it with `self.ring_c` on the features observed before `check_for_anhydro`) is the number of the anomeric
    carbon in the chemistry-level main chain – 1 for aldoses, 2 for 2-ketoses. Kernel evaluation over the regenerated tables. -/
theorem C04_default_anchor_table :
    anchorOk Gen.pyranoseTable ["API", "ERWINIOSE", "YER"] = true ∧ anchorOk Gen.furanoseTable ["API"] = true :=
  ⟨numbering_anchor_pyranose.2, numbering_anchor_furanose.2⟩

open Gly.React in
/-- **Order-independence for every token shape** (positioned, position-less, bridged `N`/`O`/`P`, `C`-linked, dashed, deoxy, uronic,
    amine, …): what a modification token does is decided from its text, the residue view and the size of the side-chain table
    (`tokenOp`) – never from the table's content – and is an operation on one cell; two tokens whose operations write different
    positions can be written in either order: whenever the round handles `n1` then `n2`, it handles `n2` then `n1` with the same
    side-chain table, the same postponed list and the same `full` flag. Any residue view, any table. -/
theorem C04_commute_all_shapes (v : View) (st : RState) (n1 n2 : List Char) (o1 o2 : CellOp) (p1 c1 p2 c2 : Nat)
    (ho1 : tokenOp v st.chains.length n1 = .ok o1) (ho2 : tokenOp v st.chains.length n2 = .ok o2)
    (h1 : o1.cell = some (p1, c1)) (h2 : o2.cell = some (p2, c2)) (hne : p1 ≠ p2) (s : RState)
    (h : bindO (reactToken v st n1) (fun s1 => reactToken v s1 n2) = .ok s) :
    bindO (reactToken v st n2) (fun s2 => reactToken v s2 n1) = .ok s :=
  reactToken_comm v st n1 n2 o1 o2 p1 c1 p2 c2 ho1 ho2 h1 h2 hne s h

open Gly.React in
/-- Non-vacuity: on a glucose view `NAc` (position-less: cell 2), `6S` (cell 6), `3-O-Me-` (cell 3) and `A` (cell 6, the uronic
    carbon) are cell operations; `NAc` and `6S` satisfy the hypotheses of `C04_commute_all_shapes`. -/
theorem C04_commute_examples :
    let glc : View := ⟨"Glc".toList, 6, [none, some 'O', some 'O', some 'O', some 'O', none, some 'O', none], 1, 6⟩
    ((tokenOp glc 7 "NAc".toList).map' CellOp.cell = some (some (2, 0))) ∧
    ((tokenOp glc 7 "6S".toList).map' CellOp.cell = some (some (6, 0))) ∧
    ((tokenOp glc 7 "3-O-Me-".toList).map' CellOp.cell = some (some (3, 0))) ∧
    ((tokenOp glc 7 "A".toList).map' CellOp.cell = some (some (6, 0))) ∧
    ((bindO (reactToken glc ⟨initChains glc, [], true⟩ "NAc".toList) (fun s1 => reactToken glc s1 "6S".toList)).map' (·.chains) =
     (bindO (reactToken glc ⟨initChains glc, [], true⟩ "6S".toList) (fun s1 => reactToken glc s1 "NAc".toList)).map' (·.chains)) := by
  decide +kernel

end Gly.Props.C04
