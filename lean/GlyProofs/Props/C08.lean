import GlyModel.Smiles.Formula
import GlyProofs.Smiles.Force
/-
  C08 — The monosaccharide library is stereochemically coherent.
  Table theorems are decided by the kernel over the *complete* regenerated tables.
-/
namespace Gly.Props.C08
open Gly.Gen

def stripChir (s : List Char) : List Char := s.filter (· ≠ '@')

/-- the stereo marks of a string in writing order: 1 for `@`, 2 for `@@` -/
def markRuns : List Char → List Nat
  | [] => []
  | '@' :: '@' :: rest => 2 :: markRuns rest
  | '@' :: rest => 1 :: markRuns rest
  | _ :: rest => markRuns rest

/-- number of positions at which two mark lists (of chirality-stripped-equal strings) differ -/
def diffCount (a b : List Nat) : Nat := (a.zip b).countP (fun (x, y) => x != y)

def rowOf (t : List MonoRow) (k : List Char) : Option MonoRow := t.find? (·.key == k)

/-- For every code that has `A_` and `B_` rows: both rows spell the same skeleton in the same atom order (equal after
    erasing `@`), carry the same number of stereo marks, and differ in exactly one of them (`@` against `@@`). Since the
    writing order is identical, the marks are comparable position by position: the two anomers differ in exactly one centre. -/
def anomerPairOk (t : List MonoRow) (r : MonoRow) : Bool :=
  match r.key with
  | 'A' :: '_' :: code =>
    match rowOf t ('B' :: '_' :: code) with
    | some b =>
      stripChir r.smiles == stripChir b.smiles &&
      (markRuns r.smiles).length == (markRuns b.smiles).length &&
      diffCount (markRuns r.smiles) (markRuns b.smiles) == 1 &&
      r.name == b.name && r.isomer == b.isomer && r.lactole == b.lactole && r.config == 1 && b.config == 2
    | none => false
  | _ => true

/-- Codes whose `A_`/`B_` rows are written in different atom orders, so that their marks cannot be compared
    position by position (these are compared as molecules by the correspondence run, see DESIGN.md). -/
def notComparable (t : List MonoRow) : List (List Char) :=
  (t.filter (fun r => match r.key with
    | 'A' :: '_' :: code => match rowOf t ('B' :: '_' :: code) with
      | some b => stripChir r.smiles != stripChir b.smiles
      | none => true
    | _ => false)).map (fun r => r.key.drop 2)

theorem C08_anomers_one_mark_pyranose :
    (pyranoseTable.filter (fun r => !(notComparable pyranoseTable).contains (r.key.drop 2))).all (anomerPairOk pyranoseTable) = true ∧
    notComparable pyranoseTable = ["PSE".toList, "LEG".toList, "ACI".toList] := by decide +kernel

theorem C08_anomers_one_mark_furanose :
    (furanoseTable.filter (fun r => !(notComparable furanoseTable).contains (r.key.drop 2))).all (anomerPairOk furanoseTable) = true ∧
    notComparable furanoseTable = ["THRE".toList] := by decide +kernel

/-- Every anomer row has its plain row with the same name, series and ring form, and the plain row is undefined. -/
def plainRowOk (t : List MonoRow) (r : MonoRow) : Bool :=
  match r.key with
  | 'A' :: '_' :: code | 'B' :: '_' :: code =>
    match rowOf t code with
    | some p => p.name == r.name && p.isomer == r.isomer && p.lactole == r.lactole && p.config == 0
    | none => false
  | _ => r.config == 0

theorem C08_plain_rows_pyranose : pyranoseTable.all (plainRowOk pyranoseTable) = true := by decide +kernel
theorem C08_plain_rows_furanose : furanoseTable.all (plainRowOk furanoseTable) = true := by decide +kernel

open Gly.Smi in
/-- Graph-level clause: for every comparable `A_`/`B_` pair both rows denote molecules (`sem` succeeds), with the same bond
    events, whose atom lists differ at exactly one atom – and that atom is the hemiacetal (hemiketal) carbon: a carbon with
    exactly two oxygen neighbours, i.e. the anomeric carbon. -/
def anomerOnHemiacetal (t : List MonoRow) (r : MonoRow) : Bool :=
  match r.key with
  | 'A' :: '_' :: code =>
    match rowOf t ('B' :: '_' :: code) with
    | some b =>
      match semOfChars r.smiles, semOfChars b.smiles with
      | some ma, some mb =>
        ma.evs == mb.evs &&
        (match diffAtoms ma.atoms mb.atoms with
         | [k] => isHemiacetalCarbon ma k
         | _ => false)
      | _, _ => false
    | none => false
  | _ => true

/-- erase stereo marks and the brackets that only existed to carry them: `[C@H]`, `[C@@H]`, `[CH]` ↦ `C`; `[C@]`, `[C@@]` ↦ `C` -/
def stripStereo : List Char → List Char
  | '[' :: 'C' :: '@' :: '@' :: 'H' :: ']' :: rest => 'C' :: stripStereo rest
  | '[' :: 'C' :: '@' :: 'H' :: ']' :: rest => 'C' :: stripStereo rest
  | '[' :: 'C' :: '@' :: '@' :: ']' :: rest => 'C' :: stripStereo rest
  | '[' :: 'C' :: '@' :: ']' :: rest => 'C' :: stripStereo rest
  | c :: rest => c :: stripStereo rest
  | [] => []

open Gly.Smi in
/-- "Erasing that single centre gives the form without anomer": for every code whose plain row is written in the same atom
    order as its `A_` row, the two denote the same bonds and differ in exactly one atom – the hemiacetal carbon – which
    carries no stereo mark in the plain row. -/
def eraseGivesPlain (t : List MonoRow) (r : MonoRow) : Bool :=
  match r.key with
  | 'A' :: '_' :: code =>
    match rowOf t code with
    | some p =>
      if stripStereo r.smiles != stripStereo p.smiles then true      -- written in another order: compared as molecules by the sweep
      else match semOfChars r.smiles, semOfChars p.smiles with
        | some ma, some mp =>
          ma.evs == mp.evs &&
          (match diffAtoms ma.atoms mp.atoms with
           | [k] => isHemiacetalCarbon ma k && !(mp.atoms.getD k []).contains '@'
           | _ => false)
        | _, _ => false
    | none => false
  | _ => true

/-- how many codes that clause actually covers (written in the same order): non-vacuity -/
theorem C08_erase_coverage :
    (pyranoseTable.filter (fun r => match r.key with
      | 'A' :: '_' :: code => (match rowOf pyranoseTable code with | some p => stripStereo r.smiles == stripStereo p.smiles | none => false)
      | _ => false)).length ≥ 30 := by
  decide +kernel

/-- Keys are unique in each table, the ring-form flag is the table's, open rows carry no anomer and (but for inositol) no ring. -/
theorem C08_tables_wellformed :
    (pyranoseTable.map (·.key)).Nodup ∧ (furanoseTable.map (·.key)).Nodup ∧ (openTable.map (·.key)).Nodup ∧
    pyranoseTable.all (·.lactole == 6) = true ∧ furanoseTable.all (·.lactole == 5) = true ∧
    openTable.all (fun r => r.config == 0 && (r.key == "INS".toList || (r.lactole == 1 && !r.smiles.any Char.isDigit))) = true :=
  ⟨Smi.nodup_of_keyCodes (by decide +kernel), Smi.nodup_of_keyCodes (by decide +kernel), Smi.nodup_of_keyCodes (by decide +kernel),
    by decide +kernel⟩

/-! ### ring size and elemental composition (graph level, all rows) -/

open Gly.Smi in
def ringSizeOk (t : List MonoRow) (except_ : List String) : Bool :=
  t.all (fun r => except_.contains (String.ofList r.key) ||
    (match (semOfChars r.smiles).bind ringInfo with | some (n, _) => n == r.lactole | none => false))

def codeOf (k : List Char) : List Char :=
  match k with
  | 'A' :: '_' :: r => r
  | 'B' :: '_' :: r => r
  | r => r

/-- hand-written Spec: (C, H, N, O) of the sugar classes -/
def classFormula : List (Nat × Nat × Nat × Nat × List String) := [
  (6, 12, 0, 6, ["GLC", "MAN", "GAL", "GUL", "ALT", "ALL", "TAL", "IDO", "FRU", "TAG", "SOR", "PSI", "HEX"]),
  (6, 12, 0, 5, ["QUI", "RHA", "FUC", "6DALT", "6DTAL", "6DGUL"]),
  (6, 12, 0, 4, ["OLI", "TYV", "ABE", "PAR", "DIG", "COL", "ASC", "PAU"]),
  (5, 10, 0, 5, ["ARA", "LYX", "XYL", "RIB", "RUL", "XLU", "API", "PEN"]),
  (4, 8, 0, 4, ["ERY", "THRE"]),
  (9, 16, 0, 9, ["KDN"]), (9, 17, 1, 8, ["NEU"]), (8, 14, 0, 8, ["KDO"]), (9, 18, 2, 6, ["PSE", "LEG", "ACI"]),
  (6, 14, 2, 3, ["BAC"]), (9, 17, 1, 7, ["MUR"]), (7, 14, 0, 7, ["HEP", "SED"]), (8, 16, 0, 8, ["OCT"])]

open Gly.Smi in
def formulaOk (t : List MonoRow) : Bool :=
  t.all (fun r =>
    match classFormula.find? (fun c => c.2.2.2.2.contains (String.ofList (codeOf r.key))) with
    | none => true
    | some (c, h, n, o, _) => (semOfChars r.smiles).map formula == some (c, h, n, o))

open Gly.Smi in
def fOf (t : List MonoRow) (key : List Char) : Option (Nat × Nat × Nat × Nat) :=
  (t.find? (fun r => r.key == key)).bind (fun r => (semOfChars r.smiles).map formula)

open Gly.Smi in
/-- every a / b row has the formula of the plain row of its table; the plain furanose row that of the plain pyranose row (if both
    exist); the alditol row (if any) that plus H2 -/
def sameFormulaAcrossForms : Bool :=
  (pyranoseTable ++ furanoseTable).all (fun r =>
    let t := if r.lactole == 6 || pyranoseTable.any (fun x => x.key == r.key && x.smiles == r.smiles) then pyranoseTable else furanoseTable
    if codeOf r.key != r.key then (semOfChars r.smiles).map formula == fOf t (codeOf r.key) else true) &&
  furanoseTable.all (fun r => codeOf r.key != r.key || (match fOf pyranoseTable r.key with | none => true | some f => fOf furanoseTable r.key == some f)) &&
  openTable.all (fun o =>
    match (pyranoseTable ++ furanoseTable).find? (fun r => r.key ++ "-OL".toList == o.key) with
    | none => true
    | some r => (match (semOfChars r.smiles).map formula, (semOfChars o.smiles).map formula with
        | some (c, h, n, ox), some (c', h', n', ox') => c == c' && h + 2 == h' && n == n' && ox == ox'
        | _, _ => false))

/-! ### the graph-level facts, in one kernel evaluation

  The seven theorems below decode the rows of the tables (`semOfChars`) and analyse the molecules (`formula`, `ringInfo`, the atom at
  which two rows differ). Within one declaration the kernel keeps the value of a closed term it has evaluated, and `semOfChars_nf`
  hands every check the decoded molecule in normal form: evaluated as one conjunction, the decoding and the shared analyses are done
  once. Grouped by what they look at: the anomeric centre, the ring, the composition. -/

open Gly.Smi in
theorem graph_facts :
    (((pyranoseTable.filter (fun r => !(notComparable pyranoseTable).contains (r.key.drop 2))).all (anomerOnHemiacetal pyranoseTable) = true ∧
      (furanoseTable.filter (fun r => !(notComparable furanoseTable).contains (r.key.drop 2))).all (anomerOnHemiacetal furanoseTable) = true) ∧
     (pyranoseTable.all (eraseGivesPlain pyranoseTable) = true ∧ furanoseTable.all (eraseGivesPlain furanoseTable) = true)) ∧
    ((pyranoseTable ++ furanoseTable ++ openTable).all (fun r => (semOfChars r.smiles).isSome) = true ∧
     (ringSizeOk pyranoseTable ["API", "A_API", "B_API"] = true ∧ ringSizeOk furanoseTable [] = true ∧
      openTable.all (fun r => r.key == "INS".toList || ((semOfChars r.smiles).bind ringInfo).isNone) = true)) ∧
    ((formulaOk pyranoseTable = true ∧ formulaOk furanoseTable = true) ∧ sameFormulaAcrossForms = true) := by
  -- the checkers are opened first: the rewrite has to see `semOfChars` itself
  unfold anomerOnHemiacetal eraseGivesPlain ringSizeOk formulaOk sameFormulaAcrossForms fOf
  simp only [semOfChars_nf]
  decide +kernel

theorem C08_anomeric_centre_pyranose :
    (pyranoseTable.filter (fun r => !(notComparable pyranoseTable).contains (r.key.drop 2))).all (anomerOnHemiacetal pyranoseTable) = true :=
  graph_facts.1.1.1

theorem C08_anomeric_centre_furanose :
    (furanoseTable.filter (fun r => !(notComparable furanoseTable).contains (r.key.drop 2))).all (anomerOnHemiacetal furanoseTable) = true :=
  graph_facts.1.1.2

theorem C08_erase_gives_plain : pyranoseTable.all (eraseGivesPlain pyranoseTable) = true ∧ furanoseTable.all (eraseGivesPlain furanoseTable) = true :=
  graph_facts.1.2

open Gly.Smi in
/-- Every row of the three tables is a SMILES of the modelled subset and denotes a finished molecule. -/
theorem C08_all_rows_denote :
    (pyranoseTable ++ furanoseTable ++ openTable).all (fun r => (semOfChars r.smiles).isSome) = true :=
  graph_facts.2.1.1

open Gly.Smi in
/-- **Each entry has the ring size of its class**: the ring closed by the row's ring-closure bond has 6 members in the pyranose
    table and 5 in the furanose table (= the row's `lactole` field) – for every row, except apiose, which the pyranose table lists
    with its (only possible) furanose ring. -/
theorem C08_ring_size :
    ringSizeOk pyranoseTable ["API", "A_API", "B_API"] = true ∧ ringSizeOk furanoseTable [] = true ∧
    openTable.all (fun r => r.key == "INS".toList || ((semOfChars r.smiles).bind ringInfo).isNone) = true :=
  graph_facts.2.1.2

/-- **Each entry has the elemental composition of its class** (hand-written class table: hexose C6H12O6, 6-deoxyhexose C6H12O5,
    3,6-dideoxyhexose C6H12O4, pentose C5H10O5, tetrose, Kdn, Neu, Kdo, Pse/Leg/Aci, Bac, Mur, heptose, octose) – every a / b /
    plain row of both ring tables, hydrogens by the organic-subset valence rules. -/
theorem C08_class_formula : formulaOk pyranoseTable = true ∧ formulaOk furanoseTable = true := graph_facts.2.2.1

/-- **The pyranose, furanose, a, b and plain entries of a code are one composition, and its alditol entry is that plus H2** –
    for every code of the library (no class table needed). -/
theorem C08_forms_same_formula : sameFormulaAcrossForms = true := graph_facts.2.2.2

end Gly.Props.C08
