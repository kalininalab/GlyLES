import GlyProofs.Smiles.TreeBalance
import GlyProofs.Mono.LinkAtom
import GlyProofs.Poly.PlanSlots
/-
  C05 — Condensation mass balance.
-/
namespace Gly.Props.C05
open Gly.Smi

/-- **Atom balance of one splice**, for every way of counting atoms (`P` = "is an oxygen", "is a stereo carbon", …):
    the result has the atoms of the marked parent and of the block, minus the marker atom – whatever the residues are. -/
theorem C05_atoms (S A B c : St) (M : Atom) (as : List Atom) (P : Atom → Bool)
    (hA : A.atoms = S.atoms ++ [M] ++ as) (hB : B.atoms = S.atoms ++ c.atoms ++ as) :
    B.atoms.countP P + [M].countP P = A.atoms.countP P + c.atoms.countP P := by
  rw [hA, hB]; simp only [List.countP_append]; omega

/-- **Bond and ring balance of one splice**: the result has the bonds of both parts (the bond to the marker becomes the
    glycosidic bond) and its number of ring closures is the sum of theirs – also when ring labels are re-used. -/
theorem C05_bonds_and_rings (S A B c : St) (e0 : Ev) (es : List Ev) (f g : Nat → Nat)
    (hA : A.evs = S.evs ++ [e0] ++ es)
    (hB : B.evs = S.evs ++ [e0] ++ c.evs.map (Ev.map f) ++ es.map (Ev.map g)) :
    B.evs.length = A.evs.length + c.evs.length ∧ ringOpens B.evs = ringOpens A.evs + ringOpens c.evs := by
  rw [hA, hB]
  exact evs_insert (S.evs ++ [e0]) es c.evs f g

/-- Both together for the graft of `Gly.Smi.graft`: instantiate with its conclusion. -/
theorem C05_graft_balance (pre post C' : List Tok) (M c0 : Atom) (S A c : St) (p : Nat) (P : Atom → Bool)
    (hpre : run St.init pre = some S) (hp : S.prev = some p)
    (hA : run St.init (pre ++ [Tok.atom M] ++ post) = some A)
    (hleaf : post = [] ∨ ∃ post', post = Tok.rpar :: post')
    (hc : run St.init (Tok.atom c0 :: C') = some c) (hclosed : c.stack = [] ∧ c.opens = [] ∧ c.pend = none)
    (hlab : ∀ l ∈ labelsOf C', lookupLabel l S.opens = none) :
    ∃ B, run St.init (pre ++ (Tok.atom c0 :: C') ++ post) = some B ∧
      B.atoms.countP P + [M].countP P = A.atoms.countP P + c.atoms.countP P ∧
      B.evs.length = A.evs.length + c.evs.length ∧
      ringOpens B.evs = ringOpens A.evs + ringOpens c.evs := by
  obtain ⟨B, as, es, hB, ea, ee, fa, fe, _, _, _⟩ := graft pre post C' M c0 S A c p hpre hp hA hleaf hc hclosed hlab
  exact ⟨B, hB, C05_atoms S A B c M as P ea fa, C05_bonds_and_rings S A B c _ es _ _ ee fe⟩

/-- **Atom balance of the whole glycan** (any depth and width, O- and N-linkages), for every way `P` of counting atoms
    (oxygens, stereo carbons, …): the atoms of the assembled molecule plus what the linkages removed – one marker atom per
    linkage, standing for the parent's linking O or N, plus the anomeric O of every N-linked child (`lost`) – are exactly the
    atoms of all residue strings plus one N per N-linkage (`gained`). With the implicit hydrogens of the organic subset this
    is "the residues minus n-1 water". -/
theorem C05_tree_atoms (isMk : Atom → Bool) (hN : isMk ['N'] = false) (t : TNode) (h : wfTree isMk t = true) (P : Atom → Bool) :
    (atomsOf (mergeTok t)).countP P + (lost t).countP P = (gained t).countP P :=
  tree_balance isMk hN t h P

/-- **Ring and bond balance of the whole glycan**: the Spec molecule has exactly the ring closures of its residues and
    exactly their bond events (the bond to each marker becomes the glycosidic bond) – and by `C01_tree_refines_spec` the
    assembled string denotes that molecule. -/
theorem C05_tree_rings (isMk : Atom → Bool) (hN : isMk ['N'] = false) (t : TNode) (h : wfTree isMk t = true) :
    ∃ M, sem (mergeTok t) = some M ∧ ringOpens M.evs = treeRings t ∧ M.evs.length = treeBonds t := by
  obtain ⟨M, h1, h2, _, _⟩ := tree_ok isMk hN t h
  exact ⟨M, h1, spec_rings t M h2⟩

open Gly.EnumC in
/-- **Marking a linkage position costs exactly one O (or N)** (Model of `Monomer.mark`, tied to monomer.py by the atom and element
    observed to change in every call inside real conversions): on success exactly one atom – an oxygen or a nitrogen, never a
    carbon – has become the marker of its kind; every other atom, every flag and every bond of the residue is what it was. Together
    with `C05_tree_atoms` (one marker lost per linkage in the assembly) this is the water balance of a glycosidic bond. -/
theorem C05_mark_one_atom (v : View) (x : Numbering) (pos oZ nZ : Nat) (v' : View) (h : mark v x pos oZ nZ = .ok v') :
    ∃ r, (((v.at r).z = 8 ∧ v' = v.setZ r oZ) ∨ ((v.at r).z = 7 ∧ v' = v.setZ r nZ)) ∧
      (∀ j, j ≠ r → v'.at j = v.at j) ∧ v'.adj = v.adj ∧ v'.atoms.length = v.atoms.length :=
  mark_spec v x pos oZ nZ v' h

open Gly.Plan in
/-- **One linkage per residue but the reducing end**: the binding plan (Model of `Merger.mark` / `merge_int`, `C01_linkage_plan`) has
    exactly one linkage per residue written to the left of the reducing end – the children of the linkages are the ids 1, 2, …, each
    once – so a glycan of `n` residues is assembled with `n - 1` condensations, each costing one marker (`C05_mark_one_atom`,
    `C05_tree_atoms`). -/
theorem C05_one_linkage_per_residue {α : Type} (down : Nat → α → α) (w : WalkCfg) (F : GF) (a : α) :
    (linkages down w F 0 1 0 a).length = F.size ∧ (linkages down w F 0 1 0 a).map (·.2.1) = List.range' 1 F.size := by
  have h := linkages_children down w F 0 1 0 a
  exact ⟨by simpa using congrArg List.length h, h⟩

open Gly.EnumC in
/-- **A linking atom is used once**: after `mark` has turned an atom into a marker, every later successful `mark` on the same residue –
    same or another position – chooses a different atom; two residues written onto one position are therefore bound to two
    different atoms (a phosphodiester's two free ends) or the second one raises – never silently onto the atom already used.
    (The marker elements are neither O nor N: `C01_marker_table`.) -/
theorem C05_linking_atom_used_once (v : View) (x x' : Numbering) (pos pos' oZ nZ oZ' nZ' r z r' z' : Nat)
    (hm : oZ ≠ 8 ∧ oZ ≠ 7 ∧ nZ ≠ 8 ∧ nZ ≠ 7)
    (h1 : markAt v x pos oZ nZ = .ok (r, z)) (h2 : markAt (v.setZ r z) x' pos' oZ' nZ' = .ok (r', z')) : r' ≠ r :=
  mark_never_reuses v x x' pos pos' oZ nZ oZ' nZ' r z r' z' hm h1 h2

end Gly.Props.C05
