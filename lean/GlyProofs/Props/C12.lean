import GlyProofs.Props.C09
/-
  C12 — Every delivery path and every worker count gives the same answer.
-/
namespace Gly.Props.C12
open Gly.Api Gly.Props.C09

/-- Returned list, output file and stdout listing carry the same pairs: the file / stdout consist of exactly one line
    `input,SMILES` per input, in input order, and nothing else is appended. -/
theorem C12_sinks_agree (par) (hpar : InOrder par) (conv : Input → Outcome)
    (single : Option Input) (list fileLines gen : Option (List Input)) (verbose : Verbose) (w : World) (path : List Char)
    (hne : allInputs single list fileLines gen ≠ [] ∨ gen.isSome) :
    let pairs := (allInputs single list fileLines gen).map (generate conv)
    (convert par conv single list fileLines gen .returning verbose w).1 matches .list _ ∧
    (convert par conv single list fileLines gen (.file path) verbose w).2.files = (path, pairs.map renderLine) :: w.files ∧
    (convert par conv single list fileLines gen .stdout verbose w).2.stdout = w.stdout ++ pairs.map renderLine := by
  simp only [convert_eq, if_neg (not_empty_of hne), results_inOrder par hpar]
  exact ⟨trivial, rfl, rfl⟩

/-- **Nothing else in the file**: whatever the output file held before the call (any earlier content of any world), afterwards it
    holds exactly the lines of this call's pairs – static inputs first, then the generator's, also when the generator is the only
    input or is empty – and every other file is what it was. -/
theorem C12_file_replaces_old_content (par) (hpar : InOrder par) (conv : Input → Outcome)
    (single : Option Input) (list fileLines gen : Option (List Input)) (verbose : Verbose) (w : World) (path : List Char)
    (hne : allInputs single list fileLines gen ≠ [] ∨ gen.isSome) :
    let w' := (convert par conv single list fileLines gen (.file path) verbose w).2
    w'.read path = some (((allInputs single list fileLines gen).map (generate conv)).map renderLine) ∧
    ∀ other, other ≠ path → w'.read other = w.read other := by
  have h := (C12_sinks_agree par hpar conv single list fileLines gen verbose w path hne).2.1
  simp only [World.read, h, List.lookup_cons, beq_self_eq_true, true_and]
  intro other ho
  rw [beq_false_of_ne ho]

/-- The result does not depend on the scheduler: any two executors that honour joblib's contract (results in
    submission order) – whatever their worker count, chunking or completion order – give the same outcome. -/
theorem C12_schedule_independent (par₁ par₂) (h₁ : InOrder par₁) (h₂ : InOrder par₂) (conv : Input → Outcome)
    (single : Option Input) (list fileLines gen : Option (List Input)) (sink : Sink) (verbose : Verbose) (w : World) :
    convert par₁ conv single list fileLines gen sink verbose w = convert par₂ conv single list fileLines gen sink verbose w := by
  have e : par₁ (generate conv) = par₂ (generate conv) := by funext xs; rw [h₁, h₂]
  unfold convert; rw [e]

/-- Direct use of the class agrees pair by pair: the SMILES of pair `i` is `Glycan(input i).get_smiles()` (or empty if that raises). -/
theorem C12_direct_use (conv : Input → Outcome) (xs : List Input) :
    (xs.map (generate conv)).map (·.2) = xs.map (fun g => (conv g).text) := by
  simp [generate, Function.comp_def]

end Gly.Props.C12
