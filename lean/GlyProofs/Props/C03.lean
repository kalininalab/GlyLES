import GlyProofs.Front.Components
/-
  C03 — The parsed tree is the glycan that was written, all of it.
-/
namespace Gly.Props.C03

/-- The walker's imperative id threading computes exactly the pre-order numbering of the compositional
    reading of the written glycan: any depth, bracketed branches (one to three per residue plus the main
    chain), brackets in brackets, floating fragments. -/
theorem C03_walk_eq_denote (w : WalkCfg) (s : Start) : walkStart w s = denStart w s :=
  walkStart_eq_denStart w s

/-- **One node per written residue, carrying its written name; the last-written residue is the root** (glycans without
    floating `{…}` fragments, any depth and branching): node 0 is the reducing-end residue and the nodes are – up to the order
    in which ids are handed out – exactly the residues written in the string, each once. -/
theorem C03_one_node_per_residue (w : WalkCfg) (s : Start) (hf : s.floats = []) :
    (walkStart w s).nodes.head? = some (rootRecipe w s) ∧
    (walkStart w s).nodes.Perm (rootRecipe w s :: (match s.begin.branch with | none => [] | some br => br.written)) := by
  rw [walkStart_nofloats w s hf]
  refine ⟨rfl, List.Perm.cons _ ?_⟩
  simp only [Start.forest]
  cases s.begin.branch with
  | none => exact .nil
  | some br => simpa [preNames] using den_names_perm br .nil

/-- **It is a tree rooted at node 0**: every node except the root has exactly one incoming edge – the edges' children are the ids
    `1, 2, …, n-1`, each once – and every edge points from a smaller id to a larger one (so there is no cycle and everything
    hangs on node 0). -/
theorem C03_tree_shape (w : WalkCfg) (s : Start) (hf : s.floats = []) :
    (walkStart w s).edges.map (·.2.1) = List.range' 1 ((walkStart w s).nodes.length - 1) ∧
    ∀ e ∈ (walkStart w s).edges, e.1 < e.2.1 := by
  rw [walkStart_nofloats w s hf]
  exact ⟨by simpa [preNames_length] using Plan.edges_children w s.forest 0 1,
    fun _ he => Plan.edges_lt Nat.zero_lt_one he⟩

/-- **Every written glycan is a forest** – floating `{…}` parts included: in the walked graph no node is the child of two edges (the
    children of the edges, in insertion order, strictly increase), every edge points from a smaller id to a larger existing one, and
    there are exactly `1 + number of floating parts` nodes without incoming edge (nodes minus edges). -/
theorem C03_forest_shape (w : WalkCfg) (s : Start) :
    ((walkStart w s).edges.map (·.2.1)).Pairwise (· < ·) ∧
    (∀ e ∈ (walkStart w s).edges, e.1 < e.2.1 ∧ e.2.1 < (walkStart w s).nodes.length) ∧
    (walkStart w s).edges.length + (s.floats.length + 1) = (walkStart w s).nodes.length :=
  let h := shape_walkStart w s
  ⟨h.sorted, h.bound, h.count⟩

end Gly.Props.C03
