import GlyProofs.Mono.CreateLemmas
import GlyProofs.Api.EmbedLemmas
import GlyProofs.Poly.Summary
/-
  C16 — Structural queries agree with the structure.
-/
namespace Gly.Props.C16

/-- `summary()["monomers"]` = `len(parse_tree.nodes)`: the walker creates exactly one node per residue of the written
    forest, whatever its shape. -/
theorem C16_monomers (w : WalkCfg) (F : GF) (p : Nat) (st : WState) :
    (flattenOnto w F p st).nodes.length = st.nodes.length + F.size := by
  rw [flattenOnto_nodes, List.length_append, preNames_length]

/-- Height of a forest (number of residues on the longest root-to-leaf path). -/
def height : GF → Nat
  | .nil => 0
  | .cons _ _ kids rest => max (1 + height kids) (height rest)

/-- Number of leaves. -/
def leaves : GF → Nat
  | .nil => 0
  | .cons _ _ .nil rest => 1 + leaves rest
  | .cons _ _ kids rest => leaves kids + leaves rest

/-- Sanity of the structural functions: a forest has at least as many residues as its height and as its leaves. -/
theorem C16_height_le_size (F : GF) : height F ≤ F.size := by
  induction F with
  | nil => simp [height, GF.size]
  | cons l n kids rest ihk ihr => simp only [height, GF.size]; omega

/-- `leaves` in the shape of `leafIds`: a residue counts iff nothing hangs on it -/
theorem leaves_cons (l : ConStr) (n : Recipe) (kids rest : GF) :
    leaves (.cons l n kids rest) = (match kids with | .nil => 1 | _ => 0) + leaves kids + leaves rest := by
  cases kids <;> simp [leaves]

theorem C16_leaves_le_size (F : GF) : leaves F ≤ F.size := by
  induction F with
  | nil => simp [leaves, GF.size]
  | cons l n kids rest ihk ihr =>
    rw [leaves_cons, GF.size]
    cases kids <;> simp only [GF.size] at * <;> omega

/-! ### Node matchers of `count` (glycan.py: recipe_equality) -/

open Gly.Query

open Gly.Model in
/-- Making the functional-group matching stricter (`basic` → `some`) never adds a match **for residues written with one
    sugar token** (`_partial`: the hypothesis `sacCount g = 1` is not granted by the property) … -/
theorem C16_some_le_basic_partial (g q : Recipe) (hq : (firstOfType q Gen.frontCfg.tSAC).isSome = true)
    (hg : sacCount g = 1) (h : matchSome g q = true) : matchBasic g q = true := by
  obtain ⟨b, hb⟩ := Option.isSome_iff_exists.mp hq
  have hmq := firstOfType_mem hb
  have hmg : (b, Gen.frontCfg.tSAC) ∈ g := by simpa using List.all_eq_true.mp h _ hmq
  have := firstOfType_unique hmg hg
  simp [matchBasic, this, hb]

/-- … and it does for residues written with two (`ManHep`, `LDManHep`, …) queried with their second token: `some`
    matches, `basic` does not (predicted from this Model, then observed on the real code: known finding). -/
theorem C16_some_gt_basic_counterexample :
    let g : Recipe := [("Man".toList, Gen.frontCfg.tSAC), ("Hep".toList, Gen.frontCfg.tSAC)]
    let q : Recipe := [("Hep".toList, Gen.frontCfg.tSAC)]
    matchSome g q = true ∧ matchBasic g q = false := by
  decide +kernel

open Gly.Embed in
/-- **Every glycan contains itself** (Model of `count(…, match_nodes=True)`, `Embed.count`: the number of induced sub-graph
    isomorphisms of the query into the glycan; tied to glycan.py by comparing counts on the trees and recipes the code builds):
    for every tree, every node matcher that is reflexive on the glycan's residues and edge matching on or off, the identity is an
    embedding, so the count is at least 1 – whatever the shape of the linkage labels. -/
theorem C16_contains_itself (nodeOk : Recipe → Recipe → Bool) (edges : Bool) (g : G)
    (hn : ∀ r ∈ g.nodes, nodeOk r r = true) : 1 ≤ Embed.count nodeOk (edgeEq edges) g g :=
  count_self_pos nodeOk (edgeEq edges) g hn (fun e _ => edgeEq_refl edges e.2.2)

open Gly.Model in
/-- … and the two recipe matchers are reflexive: `some` always, `basic` on every residue that has a sugar token (every residue
    the walker creates from a grammatical name has one; without it `recipe_equality` raises). -/
theorem C16_matchers_reflexive (r : Recipe) :
    matchSome r r = true ∧ ((firstOfType r Gen.frontCfg.tSAC).isSome = true → matchBasic r r = true) := by
  constructor
  · simp only [matchSome, List.all_eq_true]
    intro x hx
    exact List.elem_eq_true_of_mem hx
  · intro h
    obtain ⟨a, ha⟩ := Option.isSome_iff_exists.mp h
    simp [matchBasic, ha]

open Gly.Embed in
/-- Non-vacuity, and a count above 1: a match is *induced* – it needs the same edges – so in `Man(a1-3)[Man(a1-6)]Man` the
    two-residue chain `Man(a1-6)Man` is found once with edge matching and twice without. -/
theorem C16_count_examples :
    let man : Recipe := [("Man".toList, Gen.frontCfg.tSAC)]
    let g : G := ⟨[man, man, man], [(0, 1, "(a1-3)".toList), (0, 2, "(a1-6)".toList)]⟩
    let q : G := ⟨[man, man], [(0, 1, "(a1-6)".toList)]⟩
    Embed.count matchBasic (edgeEq true) g q = 1 ∧ Embed.count matchBasic (edgeEq false) g q = 2 ∧
    Embed.count matchBasic (edgeEq true) g g = 1 := by
  decide +kernel

open Gly.Plan in
/-- **`summary()["leaves"]`** (`[n for n, d in parse_tree.out_degree() if d == 0]`, Model `outLeaves`): for every written glycan
    without floating parts, the nodes without outgoing edge among the residues written to the left of the reducing end are exactly
    the residues with nothing attached to them (`leafIds` over the compositional reading, pre-order ids; `C16_leaf_count`: there
    are `leaves` of them), and the reducing end, which has something written to its left here, is not among them. -/
theorem C16_leaves (w : WalkCfg) (s : Start) (hf : s.floats = []) (br : Branch) (hb : s.begin.branch = some br) :
    outLeaves (walkStart w s).edges (List.range' 1 (den br .nil).size) = leafIds (den br .nil) 1 ∧
    outLeaves (walkStart w s).edges [0] = [] := by
  rw [walkStart_nofloats w s hf]
  simp only [Start.forest, hb]
  refine ⟨outLeaves_spec w (den br .nil) 0 1 (by omega), ?_⟩
  -- node 0 has an outgoing edge: the forest to its left is not empty
  rw [outLeaves_root (filter_parent w (den br .nil) 0 1 Nat.zero_lt_one)]
  cases hd : den br .nil with
  | nil => exact absurd hd (den_ne_nil br .nil)
  | cons _ _ _ _ => rfl

open Gly.Plan in
theorem C16_leaf_count (F : GF) (n : Nat) : (leafIds F n).length = leaves F := by
  induction F generalizing n with
  | nil => rfl
  | cons l nm kids rest ihk ihr =>
    rw [leaves_cons, ← ihk (n + 1), ← ihr (n + 1 + kids.size)]
    cases kids <;> simp [leafIds] <;> omega

open Gly.Plan in
/-- **`summary()["depth"]`** (`max(nx.shortest_path_length(parse_tree, 0).values())`, Model `depthOf`: the largest number of edges
    between node 0 and a node, found by following the parent edges): for every written glycan without floating parts it is the
    number of residues on the longest chain written to the left of the reducing end (`heightGF` of the compositional reading) –
    `levelOf_spec`: every node's level is its nesting depth in the written forest. -/
theorem C16_depth (w : WalkCfg) (s : Start) (hf : s.floats = []) (br : Branch) (hb : s.begin.branch = some br) :
    depthOf (walkStart w s).edges (walkStart w s).nodes.length = heightGF (den br .nil) := by
  rw [walkStart_nofloats w s hf]
  simp only [Start.forest, hb, List.length_cons, preNames_length, Nat.add_comm _ 1]
  exact depth_spec w (den br .nil)

end Gly.Props.C16
