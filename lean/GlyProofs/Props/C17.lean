import GlyProofs.Props.C09
/-
  C17 — Command-line contract.
-/
namespace Gly.Props.C17
open Gly.Api

/-- The glycans converted are the arguments in order of appearance, files expanded in place (lines stripped):
    the single-argument unwrapping in `main` changes nothing. -/
theorem C17_expand (args : List Arg) : cliGlycans args = args.flatMap Arg.expand := by
  unfold cliGlycans
  split <;> simp [Arg.expand, parseList]

/-- One line `input,SMILES` per glycan, in that order; unconvertible entries get an empty SMILES and do not stop the run. -/
theorem C17_lines (conv : Input → Outcome) (args : List Arg) (h : args.flatMap Arg.expand ≠ []) :
    cliOutput conv args = some ((args.flatMap Arg.expand).map (fun g => g ++ [','] ++ (conv (.str g)).text)) := by
  rw [cliOutput, C17_expand, if_neg (by simpa using h)]
  simp [renderLine, generate]

/-- The deviation the Model exhibits (replayed by the check): no glycan at all (e.g. a single empty file) – `convert`
    returns before the output file is opened, so no file is written. -/
theorem C17_empty_writes_nothing (conv : Input → Outcome) : cliOutput conv [.file []] = none := rfl

/-- Stripping removes surrounding white space only. -/
theorem C17_strip_example : stripLine " \tGlc(a1-4)Glc \r\n".toList = "Glc(a1-4)Glc".toList := by decide

/-- A file argument written one glycan per line is expanded to exactly those glycans (see `C09_file_lines_roundtrip`). -/
theorem C17_file_argument (gs : List (List Char)) (h : ∀ g ∈ gs, NoNL g)
    (h1 : ∀ g ∈ gs, ∀ x, g.head? = some x → isSpace x = false)
    (h2 : ∀ g ∈ gs, ∀ x, g.getLast? = some x → isSpace x = false) :
    (Arg.file (splitLines (gs.flatMap (· ++ ['\n'])))).expand = gs :=
  C09.C09_file_lines_roundtrip gs h h1 h2

end Gly.Props.C17
