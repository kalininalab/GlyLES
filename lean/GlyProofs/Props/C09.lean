import GlyProofs.Api.ConvertLemmas
/-
  C09 — Batch conversion is total, aligned, ordered and verbatim.
-/
namespace Gly.Props.C09
open Gly.Api

/-- All inputs in the documented order: single, list, file lines, generator. -/
def allInputs (single : Option Input) (list fileLines gen : Option (List Input)) : List Input :=
  preprocess single list fileLines ++ gen.getD []

/-- joblib's contract, as an explicit hypothesis on the parameter `par`: results come back in submission order. -/
def InOrder (par : (Input → Pair) → List Input → List Pair) : Prop := ∀ f xs, par f xs = xs.map f

theorem not_empty_of {single : Option Input} {list fileLines gen : Option (List Input)}
    (hne : allInputs single list fileLines gen ≠ [] ∨ gen.isSome) :
    ¬ ((preprocess single list fileLines).isEmpty && gen.isNone) = true := by
  cases gen <;> simp_all [allInputs]

/-- For every per-glycan behaviour `conv` (success, ParseError, any other exception – at any positions), every mix of
    the four argument kinds and every sink: `convert` returns exactly one pair per input, in the documented order,
    input echoed unchanged, empty SMILES for every raising input. -/
theorem C09_pairs (par) (hpar : InOrder par) (conv : Input → Outcome)
    (single : Option Input) (list fileLines gen : Option (List Input)) (verbose : Verbose) (w : World)
    (hne : allInputs single list fileLines gen ≠ [] ∨ gen.isSome) :
    (convert par conv single list fileLines gen .returning verbose w).1 =
      .list ((allInputs single list fileLines gen).map (generate conv)) := by
  rw [convert_eq, if_neg (not_empty_of hne), results_inOrder par hpar]; rfl

/-- One pair per input, first components are the inputs themselves, verbatim and in order. -/
theorem C09_aligned (conv : Input → Outcome) (xs : List Input) :
    (xs.map (generate conv)).length = xs.length ∧ (xs.map (generate conv)).map (·.1) = xs := by
  simp [generate, Function.comp_def]

/-- Isolation: the pair at position `i` is a function of input `i` alone – failing neighbours do not disturb it. -/
theorem C09_isolated (conv : Input → Outcome) (xs : List Input) (i : Nat) (h : i < xs.length) :
    (xs.map (generate conv))[i]'(by simpa using h) = (xs[i], (conv xs[i]).text) := by
  simp [generate]

/-- A raising input yields the empty SMILES, whatever it raised. -/
theorem C09_failing_input_empty (conv : Input → Outcome) (g : Input) (h : conv g = .raisesParse ∨ conv g = .raisesOther) :
    (generate conv g).2 = [] := by
  rcases h with h | h <;> simp [generate, h, Outcome.text]

/-- The generator variant yields the same sequence. -/
theorem C09_generator_same (par) (hpar : InOrder par) (conv : Input → Outcome)
    (single : Option Input) (list fileLines gen : Option (List Input)) (verbose : Verbose) (w : World)
    (hne : allInputs single list fileLines gen ≠ [] ∨ gen.isSome) :
    (convert par conv single list fileLines gen .returning verbose w).1 =
      .list (convertGenerator conv single list fileLines gen verbose w).1 := by
  rw [C09_pairs par hpar conv single list fileLines gen verbose w hne, convertGenerator_eq]; rfl

/-- Non-vacuity: a batch with a failing input in the middle. -/
theorem C09_example :
    let conv : Input → Outcome := fun g => match g with
      | .str ['G'] => .smiles ['O'] | .other _ => .raisesParse | _ => .raisesOther
    (convert (fun f xs => xs.map f) conv (some (.str ['G'])) (some [.other 0, .str ['x']]) none (some [.str ['G']]) .returning .none_
        ⟨false, [], []⟩).1 matches .list [(.str ['G'], ['O']), (.other 0, []), (.str ['x'], []), (.str ['G'], ['O'])] := by
  decide

/-- **A glycan file is one glycan per line** (Model of `[l.strip() for l in open(f).readlines()]`, tied to converter.py by giving the
    driver the raw file content): glycans without line terminators and without leading / trailing white space, written one per
    line, are read back as exactly that list in that order – so the file argument contributes exactly those inputs. -/
theorem C09_file_lines_roundtrip (gs : List (List Char)) (h : ∀ g ∈ gs, NoNL g)
    (h1 : ∀ g ∈ gs, ∀ x, g.head? = some x → isSpace x = false)
    (h2 : ∀ g ∈ gs, ∀ x, g.getLast? = some x → isSpace x = false) :
    readLines (gs.flatMap (· ++ ['\n'])) = gs := by
  rw [readLines, splitLines_join gs h]
  exact (List.map_congr_left fun g hg => stripLine_id g (h1 g hg) (h2 g hg)).trans (List.map_id gs)

/-- Line terminators: `\n`, `\r\n` and `\r` end a line, nothing else does (form feed, `\x1c`–`\x1e`, `\x85`, U+2028 stay inside the
    line – `str.splitlines()` would split there), and a trailing terminator starts no further line. -/
theorem C09_line_terminators :
    splitLines "Glc\nMan\r\nGal\rFuc".toList = ["Glc".toList, "Man".toList, "Gal".toList, "Fuc".toList] ∧
    splitLines "Glc\x0cMan\x1cGal\u2028Fuc\n".toList = ["Glc\x0cMan\x1cGal\u2028Fuc".toList] ∧
    splitLines "Glc\n\n".toList = ["Glc".toList, []] ∧ splitLines [] = [] := by
  decide +kernel

end Gly.Props.C09
