import GlyProofs.Api.ConvertLemmas
import GlyProofs.Api.HeapLemmas
import GlyProofs.Api.LifecycleLemmas
/-
  C11 — Conversions do not influence each other or the host process.
-/
namespace Gly.Props.C11
open Gly.Api

/-- `convert` restores the root logger on every way out (result list, file, stdout, empty input) and for every
    prior state of the switch – it puts back what it found, not `False`. -/
theorem C11_logger_restored (par conv single list fileLines gen sink verbose) (w : World) :
    (convert par conv single list fileLines gen sink verbose w).2.loggerDisabled = w.loggerDisabled := by
  rw [convert_eq]; split
  · rfl
  · cases sink <;> rfl

theorem C11_logger_restored_generator (conv single list fileLines gen verbose) (w : World) :
    (convertGenerator conv single list fileLines gen verbose w).2.loggerDisabled = w.loggerDisabled := by
  rw [convertGenerator_eq]

/-- Nothing is written to standard output unless the caller asked for the stdout listing; no file is touched unless
    an output file was named. -/
theorem C11_stdout_clean (par conv single list fileLines gen verbose) (w : World) (sink : Sink) (h : sink ≠ .stdout) :
    (convert par conv single list fileLines gen sink verbose w).2.stdout = w.stdout := by
  rw [convert_eq]; split
  · rfl
  · cases sink <;> first | rfl | exact absurd rfl h

theorem C11_files_untouched (par conv single list fileLines gen verbose) (w : World) (sink : Sink) (h : ∀ p, sink ≠ .file p) :
    (convert par conv single list fileLines gen sink verbose w).2.files = w.files := by
  rw [convert_eq]; split
  · rfl
  · cases sink <;> first | rfl | exact absurd rfl (h _)

/-- The returned value does not depend on the process-wide state the call finds (history independence of the
    converter layer; that `conv` itself is a function of the glycan alone is the part tied by the history
    correspondence run, see DESIGN.md). -/
theorem C11_result_independent_of_world (par conv single list fileLines gen sink verbose) (w w' : World) :
    (convert par conv single list fileLines gen sink verbose w).1 = (convert par conv single list fileLines gen sink verbose w').1 := by
  rw [convert_eq, convert_eq]; split
  · rfl
  · cases sink <;> rfl

/-- Hence after any finite history of `convert` calls the logger switch is what it was at the start. -/
theorem C11_history_logger (par conv) (calls : List (Option Input × Option (List Input) × Option (List Input) × Option (List Input) × Sink × Verbose))
    (w : World) :
    (calls.foldl (fun w c => (convert par conv c.1 c.2.1 c.2.2.1 c.2.2.2.1 c.2.2.2.2.1 c.2.2.2.2.2 w).2) w).loggerDisabled = w.loggerDisabled :=
  List.foldlRecOn (motive := fun w' : World => w'.loggerDisabled = w.loggerDisabled) calls _ rfl
    fun _ ih _ _ => (C11_logger_restored ..).trans ih

/-- `glycans += glycan_list` extends a fresh list: the caller's list is not part of what `preprocess` returns by
    reference – modelled as: the result is built by appending to `[]`/`[single]`, the argument is only read. -/
theorem C11_caller_list_read_only (single : Option Input) (list : List Input) :
    preprocess single (some list) none = single.toList ++ list := by
  simp [preprocess]

open Gly.Heap in
/-- **The class-level table is never changed by open-form conversions**, whatever the history: with the `copy.copy` that
    `check_for_open_form` takes, after any finite sequence of open-form rewrites (any keys, any rewrites – `-ol`, `-onic`,
    `-aric`, `-ulosonic`, lengthening; existing or missing keys) every key of the table reads what it read at the start. -/
theorem C11_tables_frame (ops : List (List Char × (Smiles → Smiles))) (w : Gly.Heap.World) (hw : WFW w) :
    let w' := ops.foldl (fun w op => (openForm true op.1 op.2 w).1) w
    w'.table = w.table ∧ ∀ k, w'.read k = w.read k := by
  induction ops generalizing w with
  | nil => exact ⟨rfl, fun _ => rfl⟩
  | cons op ops ih =>
    simp only [List.foldl]
    obtain ⟨ht, hr, hw'⟩ := openForm_copy_frame w hw op.1 op.2
    obtain ⟨ht2, hr2⟩ := ih (openForm true op.1 op.2 w).1 hw'
    exact ⟨ht2.trans ht, fun k => (hr2 k).trans (hr k)⟩

open Gly.Heap in
/-- Hence an open-form conversion gives the same result after any history as in the initial state. -/
theorem C11_open_form_history_independent (ops : List (List Char × (Smiles → Smiles))) (w : Gly.Heap.World) (hw : WFW w)
    (k : List Char) (rw : Smiles → Smiles) :
    (openForm true k rw (ops.foldl (fun w op => (openForm true op.1 op.2 w).1) w)).2 = (openForm true k rw w).2 := by
  obtain ⟨_, hr⟩ := C11_tables_frame ops w hw
  rw [openForm_copy_result, openForm_copy_result, hr k]

open Gly.Heap in
/-- The copy is what makes this true: without it (assigning to the table's own record) a two-step history suffices to
    change what a later conversion reads – `Glc-onic` followed by `Glc-ol` would return the acid. -/
theorem C11_without_copy_counterexample :
    let w : Gly.Heap.World := ⟨[(1, "OCC(O)CO".toList)], [("GLC-OL".toList, 1)]⟩
    let onic : Smiles → Smiles := fun s => "OC(=O)".toList ++ s.drop 2
    ((openForm false "GLC-OL".toList id (openForm false "GLC-OL".toList onic w).1).2 ≠ (openForm false "GLC-OL".toList id w).2) ∧
    ((openForm true "GLC-OL".toList id (openForm true "GLC-OL".toList onic w).1).2 = (openForm true "GLC-OL".toList id w).2) := by
  decide

/-- A generator that is never advanced leaves the process exactly as it was – logger switch included – whatever the arguments. -/
theorem C11_unstarted_generator_no_effect (conv : Input → Outcome) (single : Option Input)
    (list fileLines gen : Option (List Input)) (verbose : Verbose) (w : World) :
    (convertGeneratorUnstarted conv single list fileLines gen verbose w).2 = w := rfl

open Gly.Life in
/-- **`get_smiles` leaves the object's tree alone** (Model `Life.getSmiles`, after repair of the lazy path): on a `tree_only` object the
    options and the `tree_full` flag are what they were – only the cache is filled – so `get_tree`, `count`, `save_dot` answer the
    same before and after; tied by the histories that repeat these methods around `get_smiles` / `summary`. -/
theorem C11_get_smiles_keeps_the_tree (valid : List Char → Bool) (o o' : Obj) (tfLazy : Bool) (mergedLazy : Option (List Char))
    (r : List Char) (h : getSmiles valid o tfLazy mergedLazy = some (r, o')) :
    o'.treeOnly = o.treeOnly ∧ o'.full = o.full ∧ (o.treeOnly = true → o'.treeFull = o.treeFull) := by
  rcases getSmiles_cases h with ⟨_, _, rfl⟩ | ⟨_, _, rfl⟩ | ⟨_, _, m, _, _, rfl⟩
  · exact ⟨rfl, rfl, fun _ => rfl⟩
  · exact ⟨rfl, rfl, fun _ => rfl⟩
  · exact ⟨rfl, rfl, fun ht => if_pos ht⟩

end Gly.Props.C11
