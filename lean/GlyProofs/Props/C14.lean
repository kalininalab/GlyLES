import GlyModel.Smiles.Graph
import GlyModel.Mono.OpenForm
/-
  C14 — Skeleton-changing prefixes and suffixes perform their defining transformation.
-/
namespace Gly.Props.C14
open Gly.Gen Gly.Basic

def startsWith (p s : List Char) : Bool := p.isPrefixOf s
def endsWith (p s : List Char) : Bool := p.reverse.isPrefixOf s.reverse

/-- Shape precondition of the `-onic` rewrite, decided over the complete regenerated open-form table: every alditol row starts
    with `OC` or `C(O)`, so that the first `C` of the text is C1 and carries the primary hydroxyl that is turned into the acid.
    (The rows that do not end `CO` are listed by `C14_aric_excluded`.) -/
theorem C14_open_rows_shape :
    openTable.all (fun r => r.key == "INS".toList || startsWith "OC".toList r.smiles || startsWith "C(O)".toList r.smiles) = true := by
  decide +kernel

/-- On a row starting `OC…` the `-onic` rewrite yields `OC(=O)…`: the primary alcohol carbon becomes a carboxylic
    acid carbon, the rest of the text – every other atom and every stereo mark – is untouched. -/
theorem C14_onic_text (rest : List Char) : onic ('O' :: 'C' :: rest) = "OC(=O)".toList ++ rest := by
  simp [onic, replaceFirstC]

/-- `-aric` on a row ending `…CO`: the terminal `O` is dropped and `(=O)O` appended, i.e. the text ends `…C(=O)O`. -/
theorem C14_aric_text (body : List Char) : aricEnd (body ++ ['C', 'O']) = body ++ "C(=O)O".toList := by
  simp [aricEnd]

open Gly.Smi in
/-- delete atom `k` from the events: drop the events that mention it, move higher indices down by one -/
def dropAtom (k : Nat) (evs : List Ev) : List Ev :=
  (evs.filter (fun e => match e with
    | .bond i j _ => i != k && j != k
    | .ropen i _ _ => i != k
    | .rclose i q _ _ => i != k && q != k)).map (Ev.map (fun i => if i > k then i - 1 else i))

open Gly.Smi in
/-- Graph-level meaning of the `-onic` rewrite, decided by the kernel for **every** open-form row that starts `OC`: the
    rewritten text denotes the row's molecule plus exactly one atom – an `O`, double-bonded to C1 (atom 1, the carbon of the
    primary alcohol at the start of the text) – and nothing else changes: same atoms with the same stereo marks in the same
    order, same bonds, same neighbour order. -/
def onicOk (r : MonoRow) : Bool :=
  if !startsWith "OC".toList r.smiles then true else
  match semOfChars r.smiles, semOfChars (onic r.smiles) with
  | some ma, some mb =>
    mb.atoms == ma.atoms.take 2 ++ [['O']] ++ ma.atoms.drop 2 &&
    mb.evs.contains (Ev.bond 1 2 (some '=')) &&
    dropAtom 2 mb.evs == ma.evs
  | _, _ => false

theorem C14_onic_table : openTable.all onicOk = true := by decide +kernel

open Gly.Smi in
/-- Likewise `-aric`'s second rewrite on every row ending `CO` (the 6-deoxy rows end in `C` and are excluded by the code for
    `Qui` only – the others are listed by `C14_aric_excluded`): one `O` more, double-bonded to the last carbon. -/
def aricEndOk (r : MonoRow) : Bool :=
  if !endsWith "CO".toList r.smiles then true else
  match semOfChars r.smiles, semOfChars (aricEnd r.smiles) with
  | some ma, some mb =>
    let n := ma.atoms.length
    mb.atoms == ma.atoms.take (n - 1) ++ [['O'], ['O']] &&
    mb.evs.contains (Ev.bond (n - 2) (n - 1) (some '=')) &&
    dropAtom (n - 1) mb.evs == ma.evs
  | _, _ => false

theorem C14_aric_table : openTable.all aricEndOk = true := by decide +kernel

/-- rows on which the `-aric` end rewrite does not mean "oxidise the terminal CH2OH" (they do not end in `CO`) -/
theorem C14_aric_excluded :
    (openTable.filter (fun r => !endsWith "CO".toList r.smiles)).all (fun r =>
      ["QUI-OL", "RHA-OL", "FUC-OL", "INS", "6DALT-OL", "6DTAL-OL", "6DGUL-OL", "OLI-OL", "TYV-OL", "ABE-OL", "PAR-OL", "DIG-OL", "COL-OL"].contains (String.ofList r.key)) = true := by
  decide +kernel

/-! ### the Model of `check_for_open_form` / `check_for_resizing` (tied to reactor_basic.py by correspondence on every run) -/

/-- One sugar token followed by one modification token (neither a size name nor a second sugar): the row of `sac-ol`, then the
    rewrites the suffix asks for, in the order C1 acid, terminal acid, keto acid. The sugar token itself is none of the suffixes. -/
theorem openFormText_sac_mod {sac : List Char} (suf : List Char) {row : MonoRow}
    (h1 : "-onic".toList ≠ sac) (h2 : "-aric".toList ≠ sac) (h3 : "-ulosonic".toList ≠ sac) (h4 : "-ulosaric".toList ≠ sac)
    (hrow : Model.findRow openTable (sac ++ "-ol".toList) = some row) :
    openFormText [sac, suf] [frontCfg.tSAC, frontCfg.tMOD] 0 = some (
      let s2 := if "-onic".toList == suf || "-aric".toList == suf then onic row.smiles else row.smiles
      let s3 := if ("-aric".toList == suf || "-ulosaric".toList == suf) && sac != "Qui".toList then aricEnd s2 else s2
      if "-ulosonic".toList == suf || "-ulosaric".toList == suf then uloSub s3 else s3) := by
  have hidx : getIndices [sac, suf] [frontCfg.tSAC, frontCfg.tMOD] = some (0, none) := rfl
  simp only [openFormText, hidx, List.getD_cons_zero, hrow, List.contains_cons, List.contains_nil, Bool.or_false,
    beq_eq_false_iff_ne.mpr h1, beq_eq_false_iff_ne.mpr h2, beq_eq_false_iff_ne.mpr h3, beq_eq_false_iff_ne.mpr h4, Bool.false_or]

/-- `X-ol`: the new text is the alditol row of the open-form table, unchanged. -/
theorem C14_ol_is_the_table_row (sac : List Char) (row : MonoRow)
    (h1 : "-onic".toList ≠ sac) (h2 : "-aric".toList ≠ sac) (h3 : "-ulosonic".toList ≠ sac) (h4 : "-ulosaric".toList ≠ sac)
    (hrow : Model.findRow openTable (sac ++ "-ol".toList) = some row) :
    openFormText [sac, "-ol".toList] [frontCfg.tSAC, frontCfg.tMOD] 0 = some row.smiles := by
  rw [openFormText_sac_mod _ h1 h2 h3 h4 hrow]
  rfl   -- the tests on the suffix compare literals

/-- `X-onic`: exactly the C1 rewrite of the alditol row (`C14_onic_table` says what that means as a molecule). -/
theorem C14_onic_is_the_c1_rewrite (sac : List Char) (row : MonoRow)
    (h1 : "-onic".toList ≠ sac) (h2 : "-aric".toList ≠ sac) (h3 : "-ulosonic".toList ≠ sac) (h4 : "-ulosaric".toList ≠ sac)
    (hrow : Model.findRow openTable (sac ++ "-ol".toList) = some row) :
    openFormText [sac, "-onic".toList] [frontCfg.tSAC, frontCfg.tMOD] 0 = some (onic row.smiles) := by
  rw [openFormText_sac_mod _ h1 h2 h3 h4 hrow]
  rfl

/-- `X-aric` (X ≠ Qui): both rewrites, C1 first. -/
theorem C14_aric_is_both_rewrites (sac : List Char) (row : MonoRow) (hq : sac ≠ "Qui".toList)
    (h1 : "-onic".toList ≠ sac) (h2 : "-aric".toList ≠ sac) (h3 : "-ulosonic".toList ≠ sac) (h4 : "-ulosaric".toList ≠ sac)
    (hrow : Model.findRow openTable (sac ++ "-ol".toList) = some row) :
    openFormText [sac, "-aric".toList] [frontCfg.tSAC, frontCfg.tMOD] 0 = some (aricEnd (onic row.smiles)) := by
  rw [openFormText_sac_mod _ h1 h2 h3 h4 hrow, bne_iff_ne.mpr hq]
  rfl

/-- Non-vacuity, and the keto-acid rewrite on a concrete row: `Kdo`-type open forms (`-ulosonic`) of galactitol. -/
theorem C14_openform_examples :
    openFormText ["Gal".toList, "-ol".toList] [frontCfg.tSAC, frontCfg.tMOD] 0 = some "OC[C@H](O)[C@@H](O)[C@@H](O)[C@H](O)CO".toList ∧
    openFormText ["Gal".toList, "-onic".toList] [frontCfg.tSAC, frontCfg.tMOD] 0 = some "OC(=O)[C@H](O)[C@@H](O)[C@@H](O)[C@H](O)CO".toList ∧
    openFormText ["Gal".toList, "-ulosonic".toList] [frontCfg.tSAC, frontCfg.tMOD] 0 = some "OC(=O)C(=O)[C@@H](O)[C@@H](O)[C@H](O)CO".toList ∧
    openFormText ["Gal".toList, "Hep".toList, "-ol".toList] [frontCfg.tSAC, frontCfg.tSAC, frontCfg.tMOD] 6 =
      some "OCC(O)[C@H](O)[C@@H](O)[C@@H](O)[C@H](O)CO".toList ∧
    extension ["LD".toList, "Man".toList, "Hep".toList] [frontCfg.tMOD, frontCfg.tSAC, frontCfg.tSAC] 6 = some "[C@@H](O)CO".toList ∧
    extension ["Gal".toList, "Oct".toList] [frontCfg.tSAC, frontCfg.tSAC] 6 = some "C(O)C(O)CO".toList := by
  decide +kernel

end Gly.Props.C14
