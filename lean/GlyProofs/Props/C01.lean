import GlyProofs.Smiles.Certify
import GlyProofs.Mono.Numbering
import GlyProofs.Mono.LinkAtom
import GlyProofs.Poly.PlanSlots
/-
  C01 — Glycosidic assembly yields exactly the molecule the linkages describe.
-/
namespace Gly.Props.C01
open Gly.Smi Gly.Asm

/-- The graft lemma (full statement in `Gly.Smi.graft`): replacing a leaf marker atom of a SMILES by a closed block that
    starts with an atom and whose ring labels are not open at that point yields the SMILES of the graft – atoms of the
    parent with the marker replaced by the block's atoms, bond events of both carried over as written (so every ordered
    neighbour list and every stereo mark of both residues is unchanged), one new bond from the marker's parent carbon to
    the block's first atom. Unbounded: any parent, any block, any position. -/
theorem C01_graft (pre post C' : List Tok) (M c0 : Atom) (S A c : St) (p : Nat)
    (hpre : run St.init pre = some S) (hp : S.prev = some p)
    (hA : run St.init (pre ++ [Tok.atom M] ++ post) = some A)
    (hleaf : post = [] ∨ ∃ post', post = Tok.rpar :: post')
    (hc : run St.init (Tok.atom c0 :: C') = some c) (hclosed : c.stack = [] ∧ c.opens = [] ∧ c.pend = none)
    (hlab : ∀ l ∈ labelsOf C', lookupLabel l S.opens = none) :
    ∃ B as es,
      run St.init (pre ++ (Tok.atom c0 :: C') ++ post) = some B ∧
      A.atoms = S.atoms ++ [M] ++ as ∧
      A.evs = S.evs ++ [Ev.bond p S.atoms.length S.pend] ++ es ∧
      B.atoms = S.atoms ++ c.atoms ++ as ∧
      B.evs = S.evs ++ [Ev.bond p S.atoms.length S.pend] ++ c.evs.map (Ev.map (· + S.atoms.length)) ++
                es.map (Ev.map (ren S.atoms.length (c.atoms.length - 1))) ∧
      B.stack = A.stack.map (ren S.atoms.length (c.atoms.length - 1)) ∧
      B.opens = A.opens.map (shiftO (ren S.atoms.length (c.atoms.length - 1))) ∧
      B.pend = A.pend :=
  graft pre post C' M c0 S A c p hpre hp hA hleaf hc hclosed hlab

/-- The result of a graft is a finished molecule exactly when the marked parent was (nothing is left open by the block). -/
theorem C01_graft_closed (A B : St) (N d : Nat)
    (hs : B.stack = A.stack.map (ren N d)) (ho : B.opens = A.opens.map (shiftO (ren N d))) (hp : B.pend = A.pend) :
    B.closed = A.closed :=
  St.closed_of_map hs ho hp

/-- Soundness of the decidable per-splice certificate the driver evaluates on **every real merge step**
    (character-level Model of `merge_int` ↔ token-level graft theorem). -/
theorem C01_certified_splice (sym me block result : List Char) (h : certifySplice sym me block result = true) :
    ∃ pre post C' M c0 S c p,
      tokenize me = some (pre ++ [Tok.atom M] ++ post) ∧
      tokenize block = some (Tok.atom c0 :: C') ∧
      tokenize result = some (pre ++ (Tok.atom c0 :: C') ++ post) ∧
      run St.init pre = some S ∧ S.prev = some p ∧ run St.init (Tok.atom c0 :: C') = some c ∧
      ∀ A, run St.init (pre ++ [Tok.atom M] ++ post) = some A →
        ∃ B as es, run St.init (pre ++ (Tok.atom c0 :: C') ++ post) = some B ∧
          A.atoms = S.atoms ++ [M] ++ as ∧
          A.evs = S.evs ++ [Ev.bond p S.atoms.length S.pend] ++ es ∧
          B.atoms = S.atoms ++ c.atoms ++ as ∧
          B.evs = S.evs ++ [Ev.bond p S.atoms.length S.pend] ++ c.evs.map (Ev.map (· + S.atoms.length)) ++
                    es.map (Ev.map (ren S.atoms.length (c.atoms.length - 1))) ∧
          B.stack = A.stack.map (ren S.atoms.length (c.atoms.length - 1)) ∧
          B.opens = A.opens.map (shiftO (ren S.atoms.length (c.atoms.length - 1))) ∧
          B.pend = A.pend :=
  certifySplice_sound sym me block result h

/-- Non-vacuity: the boundary strings RDKit writes for `Man(a1-3)Man` (marked parent, shifted child) satisfy the
    hypotheses, and the character-level splice of the Model is the certified one. -/
theorem C01_example :
    let me := "O1C(O)[C@@H](O)[C@@H]([Ga])[C@H](O)[C@H]1CO".toList
    let child := "O[C@H]2O[C@H](CO)[C@@H](O)[C@H](O)[C@@H]2O".toList
    certifySplice "Ga".toList me child (subMarker "Ga".toList child (me.length + 1) me) = true := by
  decide +kernel

/-- The hypothesis on ring labels is necessary, and the certificate rejects a clash: a child that re-uses the label
    the bicyclic parent still has open at the splice point (the defect repaired in `merge_int`, D6). -/
theorem C01_label_clash_rejected :
    let me := "O1C2OC[C@@H]1[C@@H](O)[C@H]([Ga])[C@H]2O".toList
    let child := "O[C@H]2O[C@H](CO)[C@@H](O)[C@H](O)[C@@H]2O".toList
    certifySplice "Ga".toList me child (subMarker "Ga".toList child (me.length + 1) me) = false := by
  decide +kernel

/-- **Whole-glycan refinement** (any depth, any width, O- and N-linkages): for every tree of residue strings that passes the
    decidable check `wfTree` – every string is a closed SMILES starting with an atom; the children's markers are pairwise
    different marker atoms, each sitting exactly once in the parent's string on a leaf atom that has a parent atom; no other
    marker atom occurs; no ring label of a child's assembled string is open in the parent at the child's marker – the
    token-level Model of `merge_int` (`mergeTok`: merge every child, splice it over its marker, `N(`…`)` for N-linkages)
    yields a SMILES that denotes **exactly the Spec molecule** `specTree`: the residue's own molecule with every child's
    molecule grafted at the atom carrying its marker, every atom, bond event, ordered neighbour list and stereo mark of every
    residue carried over as written. In particular the result is never "no molecule" (such inputs never come back empty). -/
theorem C01_tree_refines_spec (isMk : Atom → Bool) (hN : isMk ['N'] = false) (t : TNode) (h : wfTree isMk t = true) :
    ∃ M, sem (mergeTok t) = some M ∧ specTree t = some M := by
  obtain ⟨M, h1, h2, _⟩ := tree_sound isMk hN t h
  exact ⟨M, h1, h2⟩

/-- Soundness of the whole-merge certificate the driver evaluates on **every real `merge_int` tree** (boundary strings
    captured from RDKit): the string the character-level Model returns – text-identical to the code's – denotes `specTree`
    of the tree of boundary strings. -/
theorem C01_certified_tree (fuel : Nat) (node : Node) (h : certifyTree fuel node = true) :
    ∃ t out to M, toTNode fuel node 0 = some t ∧ mergeInt fuel node 0 = .ok out ∧ tokenize out = some to ∧
      sem to = some M ∧ specTree t = some M ∧ ∀ a ∈ M.atoms, isMkDummy a = false :=
  certifyTree_sound fuel node h

/-- Non-vacuity of `wfTree`: the boundary strings of `Man(a1-3)[Man(a1-6)]Man` (root with two marked positions, two
    children) pass the certificate. -/
theorem C01_tree_example :
    certifyTree 10 (.mk "O1C(O)[C@@H](O)[C@@H]([Ga])[C@H](O)[C@H]1C[As]".toList 1
      [.mk "O[C@H]1O[C@H](CO)[C@@H](O)[C@H](O)[C@@H]1O".toList 1 [],
       .mk "O[C@H]1O[C@H](CO)[C@@H](O)[C@H](O)[C@@H]1O".toList 1 []]) = true := by
  decide +kernel

/-- An N-linked child: if the child's string is a closed block denoting `C`, then `"N(" + child[1:] + ")"` is a closed block
    denoting `C` with its first atom (the anomeric O) replaced by the parent's N – same bonds, same atom numbering. -/
theorem C01_nlink_block (block : List Tok) (C : Mol) (hb : BlockOK block C) : BlockOK (blockOf true block) (nCap C) :=
  nblock block C hb

open Gly.EnumC in
/-- **The carbon numbering of the library** (`enumerate_carbon`, the numbering every position lookup – `find_oxygen`, `mark`,
    `root_atom_id` – relies on): for every anomer-less row of the pyranose and furanose tables (the a / b rows have the same
    atoms and bonds) the Model of `enumerate_carbon` – tied to enum_c.py by correspondence on every residue the checks convert –
    numbers the main chain exactly as the chemistry-level rule does: C1 is the anomeric carbon (ring carbon bonded to the ring
    oxygen and to a second oxygen) or, in a 2-ketose, the carbon hanging on it; the numbering runs along the ring away from the
    ring oxygen and on into the exocyclic tail. Exceptions, listed: the branched-chain sugars Api, Erwiniose, Yer, whose "main
    chain" is a convention. Kernel evaluation over the complete regenerated tables. -/
theorem C01_numbering_table :
    numberingOk Gen.pyranoseTable ["API", "ERWINIOSE", "YER"] = true ∧ numberingOk Gen.furanoseTable ["API"] = true :=
  ⟨numbering_anchor_pyranose.1, numbering_anchor_furanose.1⟩

open Gly.EnumC in
/-- **The linking hetero atom** (Model of `Monomer.find_oxygen`, tied to monomer.py by correspondence on every call observed):
    for the carbon a linkage names, the atom handed out is the carbon itself (no O/N there) or an O – else an N – bonded to it by a
    single bond that is not exclusively in the main ring: never the ring oxygen, never an atom of another carbon. -/
theorem C01_linking_atom (v : View) (pos o : Nat) (h : findOxygenAt v [pos] = .ok o) :
    o = pos ∨ (v.bo pos o = 1 ∧ ((v.at o).z = 8 ∨ (v.at o).z = 7) ∧ (v.at o).ring ≠ 1) :=
  findOxygenAt_spec v pos o h

open Gly.EnumC in
/-- … and when that atom is already substituted, `__check_root_id`'s walk through the substituent ends on the atom it was given, on
    a terminal oxygen or on a nitrogen with at most two bonds – the only atoms `mark` may turn into a linkage marker. -/
theorem C01_linking_atom_through_substituent (v : View) (fuel : Nat) (q seen : List Nat) (root : Nat) :
    let r := checkRootGo v fuel q seen none root
    r = root ∨ ((v.at r).z = 8 ∧ degSum v r = 1) ∨ ((v.at r).z = 7 ∧ degSum v r ≤ 2) :=
  checkRootGo_spec v fuel q seen none root (by intro c hc; cases hc)

open Gly.Plan in
/-- **Which linkage marks what** (Model of `Merger.mark` / `Merger.merge_int`, tied to merger.py by the sequence of calls observed
    inside real conversions): for every written glycan without floating fragments whose residues have at most four children
    (four marker pairs; `m ≤ slots`, `m ≤ limit`), the recursion of the code over the edge list of the walked tree issues, for
    every traversal instance `T`, exactly the calls of the Spec `specWhole` – linkage by linkage of the written forest
    `den br nil` in pre-order: the action on the linkage (`T.edge parent child label slot`, slot = the child's position among
    its siblings), then the action on entering the child (`T.pre child label`). Any depth, any width up to `m`, any labels. -/
theorem C01_linkage_plan {α : Type} (T : Trav α) (w : WalkCfg) (s : Start) (br : Branch) (hf : s.floats = [])
    (hb : s.begin.branch = some br) (m : Nat) (hs : m ≤ T.slots) (hl : ∀ l, T.limit = some l → m ≤ l)
    (hw0 : (den br .nil).width ≤ m) (hw : (den br .nil).widthOK m = true)
    (f : Nat) (hfu : (den br .nil).size < f) (pe : List Char) (a : α) :
    go T (walkStart w s).edges f 0 pe a = specWhole T w (den br .nil) pe a := by
  rw [walkStart_nofloats w s hf, Start.forest, hb]
  exact go_edgesGF T w (den br .nil) m hs hl hw0 hw f hfu pe a

open Gly.Plan in
/-- … read for `Merger.mark` (instance `markTrav`): one written linkage `(p, c, "(xA-B)", k)` = the call `mark(B, marker pair k)`
    on residue `p` – the carbon named *second* in the label, a marker pair no sibling shares – followed, when the child has no
    anomer of its own, by `to_chirality(x)` on the child with the anomer letter of *its own* label. -/
theorem C01_mark_per_linkage (undef : Nat → Bool) (ns : Nat) (p c : Nat) (lab : List Char) (k : Nat) :
    perLinkage (markTrav undef ns) (p, c, lab, k, ()) =
      (numAt lab 1).map (fun b => [Call.mark p b k] ++ (if undef c then [Call.chir c (lab.getD 1 ' ').toLower] else [])) := by
  simp only [perLinkage, markTrav]
  cases numAt lab 1 <;> simp

open Gly.Plan in
/-- … and for `Merger.merge_int` (instance `mergeTrav`): the child's SMILES is written from the carbon named *first* in the label,
    with the ring-label offset its parent inherited plus `max(1, rings of the parent)`. -/
theorem C01_root_per_linkage (rings : Nat → Nat) (ns : Nat) (p c : Nat) (lab : List Char) (k ri : Nat) :
    perLinkage (mergeTrav rings ns) (p, c, lab, k, ri) =
      (numAt lab 0).map (fun a => [Call.root c a, Call.smiles c (ri + max 1 (rings p))]) := by
  simp only [perLinkage, mergeTrav]
  cases numAt lab 0 <;> simp

open Gly.Plan in
/-- `(a1-4)`: mark carbon 4 of the parent, root the child at carbon 1, anomer `a`; `Neu5Ac(a2-3)`: carbon 3 / carbon 2;
    two-digit positions are one number; a label with `?` for the parent position has no second number (the code raises). -/
theorem C01_label_examples :
    numAt "(a1-4)".toList 0 = some 1 ∧ numAt "(a1-4)".toList 1 = some 4 ∧
    numAt "(a2-3)".toList 0 = some 2 ∧ numAt "(a2-3)".toList 1 = some 3 ∧
    numAt "(b1-12)".toList 1 = some 12 ∧ numAt "(a1-?)".toList 1 = none ∧ "(a1-4)".toList.getD 1 ' ' = 'a' := by
  decide

open Gly.Plan in
/-- Non-vacuity: the plan of `Man(a1-3)[Man(a1-6)]Man(b1-4)GlcNAc` shaped forest (root, one child with two children). -/
example :
    let F : GF := .cons "(b1-4)".toList [] (.cons "(a1-3)".toList [] .nil (.cons "(a1-6)".toList [] .nil .nil)) .nil
    let w : WalkCfg := ⟨0, fun _ => true, fun _ => false⟩
    specWhole (markTrav (fun _ => true) 4) w F (rootLabel ['n']) () =
      some [.chir 0 'n', .mark 0 4 0, .chir 1 'b', .mark 1 3 0, .chir 2 'a', .mark 1 6 1, .chir 3 'a'] := by
  decide +kernel

open Gly.Plan in
/-- **No two children of one residue share a marker pair**: in the plan the children of every residue `x` get the slots 0, 1, 2, …
    in written sibling order – the hypothesis "the children's markers are pairwise different" of `C01_tree_refines_spec` is what
    `Merger.mark` produces (with `C01_marker_table`: different slots are different marker atoms). -/
theorem C01_sibling_slots_distinct {α : Type} (down : Nat → α → α) (w : WalkCfg) (F : GF) (a : α) (x : Nat) :
    (((linkages down w F 0 1 0 a).filter (fun l => l.1 == x)).map Lk.slot).Nodup ∧
    ((linkages down w F 0 1 0 a).filter (fun l => l.1 == x)).map Lk.slot =
      List.range' 0 ((linkages down w F 0 1 0 a).filter (fun l => l.1 == x)).length := by
  have h := slots_consecutive down w F 0 1 0 a x (by omega)
  rw [ite_self] at h
  exact ⟨h ▸ List.nodup_range', h⟩

/-- the marker pairs of the four slots are eight different atoms (kernel evaluation over the regenerated table) -/
theorem C01_marker_table :
    Gen.dummyAtoms.length = 4 ∧ (Gen.dummyAtoms.flatMap (fun p => [p.1.2, p.2.2])).Nodup := by
  decide +kernel

/-- The tree the assembly consumes is the written one (C03). -/
theorem C01_tree_is_written (w : WalkCfg) (s : Start) : walkStart w s = denStart w s := walkStart_eq_denStart w s

end Gly.Props.C01
