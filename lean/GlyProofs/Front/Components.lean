import GlyModel.Front.Connected
import GlyProofs.Front.Forest
/-
  The number of connected components of a walked graph: every edge of the walker joins a node that has never been a child to an
  older node, so every edge removes exactly one component. Hence, for every written glycan, floating parts included: one component
  for the main glycan and one per floating part.
-/
namespace Gly

/-- edges in insertion order whose children are new (at least `b`, below `n`), each larger than its parent -/
def EdgesFresh (n : Nat) : Nat → List (Nat × Nat × List Char) → Prop
  | _, [] => True
  | b, (p, c, _) :: rest => b ≤ c ∧ p < c ∧ c < n ∧ EdgesFresh n (c + 1) rest

/-- invariant of the label list while edges with fresh children are merged in: ids from `b` on have never been a child and still
    carry their own label; older ids carry a label that is at most their id -/
structure LabInv (n b : Nat) (lab : List Nat) : Prop where
  len : lab.length = n
  hi : ∀ j, b ≤ j → j < n → lab.getD j j = j
  lo : ∀ i, i < b → lab.getD i i ≤ i

/-- what merging does to the label of a node – apart from its length, all that the proofs below use of `mergeLabel` -/
theorem mergeLabel_getD (lab : List Nat) (a b i : Nat) (hi : i < lab.length) :
    (mergeLabel lab a b).getD i i = if lab.getD i i = lab.getD b b then lab.getD a a else lab.getD i i := by
  simp [mergeLabel, List.getD, hi]

/-- every label is at most the id that carries it -/
theorem LabInv.le {n b : Nat} {lab : List Nat} (I : LabInv n b lab) {i : Nat} (hi : i < n) : lab.getD i i ≤ i :=
  if h : i < b then I.lo i h else Nat.le_of_eq (I.hi i (Nat.le_of_not_lt h) hi)

/-- under the invariant an edge `(p, c)` with a new child relabels exactly `c`, with a smaller label -/
theorem mergeLabel_fresh {n b : Nat} {lab : List Nat} {p c : Nat} (I : LabInv n b lab) (hbc : b ≤ c) (hpc : p < c) (hcn : c < n) :
    lab.getD p p < c ∧
    ∀ i, i < n → (mergeLabel lab p c).getD i i = if i = c then lab.getD p p else lab.getD i i := by
  refine ⟨Nat.lt_of_le_of_lt (I.le (by omega)) hpc, fun i hi => ?_⟩
  rw [mergeLabel_getD lab p c i (I.len ▸ hi), I.hi c hbc hcn]
  -- only `c` carries the label `c`: below `c` a label is at most the id, above `c` it is the id
  have := I.le hi
  have := fun h : c < i => I.hi i (by omega) hi
  by_cases hic : i = c
  · rw [if_pos hic, if_pos (hic ▸ I.hi c hbc hcn)]
  · rw [if_neg hic, if_neg (by omega)]

theorem LabInv.step {n b : Nat} {lab : List Nat} {p c : Nat} (I : LabInv n b lab) (hbc : b ≤ c) (hpc : p < c) (hcn : c < n) :
    LabInv n (c + 1) (mergeLabel lab p c) := by
  obtain ⟨hla, he⟩ := mergeLabel_fresh I hbc hpc hcn
  refine ⟨by simp [mergeLabel, I.len], fun j hj hjn => ?_, fun i hi => ?_⟩
  · rw [he j hjn, if_neg (by omega)]; exact I.hi j (by omega) hjn
  · rw [he i (by omega)]
    split
    · omega
    · exact I.le (by omega)

theorem ownLabel_step {n b : Nat} {lab : List Nat} {p c : Nat} (I : LabInv n b lab) (hbc : b ≤ c) (hpc : p < c) (hcn : c < n) :
    ownLabel (mergeLabel lab p c) n + 1 = ownLabel lab n := by
  obtain ⟨hla, he⟩ := mergeLabel_fresh I hbc hpc hcn
  have hc : c ∈ (List.range n).filter (fun i => lab.getD i i == i) :=
    List.mem_filter.mpr ⟨List.mem_range.mpr hcn, by simpa using I.hi c hbc hcn⟩
  -- the nodes that carry their own label afterwards are those that did before, without `c`
  have : (List.range n).filter (fun i => (mergeLabel lab p c).getD i i == i) =
      ((List.range n).filter (fun i => lab.getD i i == i)).erase c := by
    rw [(List.nodup_range.sublist List.filter_sublist).erase_eq_filter, List.filter_filter]
    refine List.filter_congr fun i hi => ?_
    rw [he i (List.mem_range.mp hi)]
    split
    · subst i; simp only [bne_self_eq_false, Bool.false_and, beq_eq_false_iff_ne, ne_eq]; omega
    · simp [*]
  rw [ownLabel, ownLabel, this, List.length_erase_of_mem hc]
  have := List.length_pos_of_mem hc
  omega

/-- **every edge to a new child removes exactly one component** -/
theorem ownLabel_fold (n : Nat) (es : List (Nat × Nat × List Char)) : ∀ (b : Nat) (lab : List Nat), LabInv n b lab →
    EdgesFresh n b es →
    ownLabel (es.foldl (fun lab e => mergeLabel lab e.1 e.2.1) lab) n + es.length = ownLabel lab n := by
  induction es with
  | nil => intro b lab _ _; rfl
  | cons e rest ih =>
    obtain ⟨p, c, l⟩ := e
    intro b lab I ⟨hbc, hpc, hcn, hrest⟩
    have := ih _ _ (LabInv.step I hbc hpc hcn) hrest
    have := ownLabel_step I hbc hpc hcn
    simp only [List.foldl_cons, List.length_cons]
    omega

theorem LabInv.init (n : Nat) : LabInv n 0 (List.range n) :=
  ⟨by simp, by intro j _ hj; simp [List.getD, hj], by intro i hi; omega⟩

theorem ownLabel_init (n : Nat) : ownLabel (List.range n) n = n := by
  rw [ownLabel, List.filter_eq_self.mpr fun i hi => by simp [List.getD, List.mem_range.mp hi], List.length_range]

/-- components of a graph whose edges all lead to new children: nodes minus edges -/
theorem components_fresh (st : WState) (h : EdgesFresh st.nodes.length 0 st.edges) :
    components st + st.edges.length = st.nodes.length :=
  (ownLabel_fold _ _ 0 _ (LabInv.init _) h).trans (ownLabel_init _)

/-! ### the shape of a walked graph, floating parts included -/

/-- shape of the edge list of a walked graph: children strictly increasing in insertion order, each above its parent and an
    existing node; `k` = nodes minus edges -/
structure Shape (st : WState) (k : Nat) : Prop where
  sorted : (st.edges.map (·.2.1)).Pairwise (· < ·)
  bound : ∀ e ∈ st.edges, e.1 < e.2.1 ∧ e.2.1 < st.nodes.length
  count : st.edges.length + k = st.nodes.length

theorem fresh_of_sorted (n : Nat) : ∀ (es : List (Nat × Nat × List Char)) (b : Nat),
    (es.map (·.2.1)).Pairwise (· < ·) → (∀ e ∈ es, b ≤ e.2.1 ∧ e.1 < e.2.1 ∧ e.2.1 < n) → EdgesFresh n b es
  | [], _, _, _ => trivial
  | (p, c, l) :: rest, b, hs, hb => by
    rw [List.map_cons, List.pairwise_cons] at hs
    obtain ⟨h1, h2, h3⟩ := hb (p, c, l) (by simp)
    refine ⟨h1, h2, h3, fresh_of_sorted n rest (c + 1) hs.2 fun e he => ?_⟩
    have : c < e.2.1 := hs.1 e.2.1 (List.mem_map_of_mem he)
    have := hb e (by simp [he])
    omega

theorem Shape.components {st : WState} {k : Nat} (h : Shape st k) : components st = k := by
  have := components_fresh st (fresh_of_sorted _ _ 0 h.sorted fun e he => ⟨Nat.zero_le _, h.bound e he⟩)
  have := h.count
  omega

/-- new edges whose children are the new ids, in order: the shape is kept -/
theorem Shape.extend {st st' : WState} {k : Nat} (h : Shape st k) {es : List (Nat × Nat × List Char)} {m : Nat}
    (hn : st'.nodes.length = st.nodes.length + m) (he : st'.edges = st.edges ++ es)
    (hc : es.map (·.2.1) = List.range' st.nodes.length m) (hp : ∀ e ∈ es, e.1 < e.2.1) : Shape st' k := by
  have hlen : es.length = m := by simpa using congrArg List.length hc
  refine ⟨?_, fun e he' => ?_, ?_⟩
  · rw [he, List.map_append, hc, List.pairwise_append]
    refine ⟨h.sorted, List.pairwise_lt_range', fun a ha b hb => ?_⟩
    obtain ⟨e, he', rfl⟩ := List.mem_map.mp ha
    exact Nat.lt_of_lt_of_le (h.bound e he').2 (List.mem_range'_1.mp hb).1
  · rcases List.mem_append.mp (he ▸ he') with h1 | h1
    · exact ⟨(h.bound e h1).1, by have := (h.bound e h1).2; omega⟩
    · have := List.mem_range'_1.mp (hc ▸ List.mem_map_of_mem h1)
      exact ⟨hp e h1, hn ▸ this.2⟩
  · rw [he, List.length_append, hlen, hn]; have := h.count; omega

/-- a new node without an edge: one more component -/
theorem Shape.node {st : WState} {k : Nat} (h : Shape st k) (r : Recipe) (b : Bool) :
    Shape ⟨st.nodes ++ [r], st.edges, b⟩ (k + 1) :=
  ⟨h.sorted, fun e he => ⟨(h.bound e he).1, by have := (h.bound e he).2; simp; omega⟩, by have := h.count; simp; omega⟩

/-- a forest hung on an existing node: one new edge per new node -/
theorem Shape.flatten (w : WalkCfg) (F : GF) (p : Nat) (st : WState) (k : Nat) (h : Shape st k) (hp : p < st.nodes.length) :
    Shape (flattenOnto w F p st) k ∧ (flattenOnto w F p st).nodes.length = st.nodes.length + F.size := by
  rw [flattenOnto_eq w F p st hp]
  have hlen : (st.nodes ++ preNames F).length = st.nodes.length + F.size := by simp [preNames_length]
  exact ⟨h.extend hlen rfl (Plan.edges_children w F p _) (fun _ he => Plan.edges_lt hp he), hlen⟩

/-- a floating part (numbered onto the id its first residue gets): one edge fewer than nodes – one more component -/
theorem Shape.flattenFloat (w : WalkCfg) (l : ConStr) (n : Recipe) (kids rest : GF) (st : WState) (k : Nat) (h : Shape st k) :
    Shape (flattenOnto w (.cons l n kids rest) st.nodes.length st) (k + 1) := by
  rw [flattenOnto_float]
  exact (Shape.flatten w _ _ _ _ (h.node n _) (by simp)).1

theorem Shape.floats (w : WalkCfg) (fs : List Branch) {st : WState} {k : Nat} (h : Shape st k) :
    Shape (fs.foldl (fun st b => flattenOnto w (den b .nil) st.nodes.length st) st) (k + fs.length) := by
  induction fs generalizing st k with
  | nil => exact h
  | cons b rest ih =>
    have hstep : Shape (flattenOnto w (den b .nil) st.nodes.length st) (k + 1) := by
      cases hd : den b .nil with
      | nil => exact absurd hd (den_ne_nil b .nil)
      | cons l n kids r => exact Shape.flattenFloat w l n kids r st k h
    exact Nat.add_right_comm k 1 rest.length ▸ ih hstep

/-- **Shape of every walked graph**, floating parts included: edges in insertion order lead to strictly increasing children (no node
    is a child twice), each above its parent; nodes minus edges = 1 + number of floating parts. -/
theorem shape_walkStart (w : WalkCfg) (s : Start) : Shape (walkStart w s) (s.floats.length + 1) := by
  have hf := Shape.floats w s.floats (st := WState.init) (k := 0) ⟨.nil, nofun, rfl⟩
  rw [Nat.zero_add] at hf
  rw [walkStart_eq_denStart]
  simp only [denStart, addNode]
  cases s.begin.branch with
  | none => exact hf.node _ _
  | some br => exact (Shape.flatten w _ _ _ _ (hf.node _ _) (by simp)).1

/-- **Every written glycan**: one component for the main glycan plus one per floating part. -/
theorem components_walkStart (w : WalkCfg) (s : Start) : components (walkStart w s) = 1 + s.floats.length := by
  rw [(shape_walkStart w s).components]; omega

end Gly
