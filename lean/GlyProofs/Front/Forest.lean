import GlyModel.Poly.Plan
/-
  The walked graph. `walk` (the id-threading walker of walker.py) is the pre-order numbering `flattenOnto` of the compositional reading
  `den` (`walkStart_eq_denStart`), and numbering a forest `F` onto a node is known in closed form: it appends the residues of `F` in
  pre-order (`preNames`), the edges `edgesGF` and and-s `allFull` onto the flag (`flattenOnto_eq`). Everything else that is said about a
  walked graph (shape, components, plan, leaves, depth, `full`) is a statement about `preNames`, `edgesGF` and `allFull`, proved by
  induction on the forest alone.
-/
namespace Gly
open Gly.Plan

/-! ### the walker computes the compositional reading -/

theorem flattenOnto_append (w : WalkCfg) (F G : GF) (p : Nat) (st : WState) :
    flattenOnto w (F.append G) p st = flattenOnto w G p (flattenOnto w F p st) := by
  induction F generalizing st with
  | nil => simp [GF.append, flattenOnto]
  | cons l n k r _ ihr => simp [GF.append, flattenOnto, ihr]

/-- The imperative id-threading walker equals the pre-order numbering of the compositional reading,
    in continuation form: for every forest `L` still to be hung on this branch's attachment point. -/
theorem walk_den (w : WalkCfg) (b : Branch) (L : GF) (p : Nat) (st : WState) :
    flattenOnto w (den b L) p st = flattenOnto w L (walk w b p st).1 (walk w b p st).2 := by
  induction b generalizing L p st <;> simp [den, walk, flattenOnto, flattenOnto_append, *]

theorem walk_den_nil (w : WalkCfg) (b : Branch) (p : Nat) (st : WState) :
    flattenOnto w (den b .nil) p st = (walk w b p st).2 := by
  rw [walk_den, flattenOnto]

theorem walkStart_eq_denStart (w : WalkCfg) (s : Start) : walkStart w s = denStart w s := by
  simp only [denStart, walk_den_nil, walkStart, walkBegin]
  cases s.begin.branch <;> rfl

theorem GF.append_ne_nil (F G : GF) (h : F ≠ .nil) : F.append G ≠ .nil := by
  cases F with
  | nil => exact absurd rfl h
  | cons _ _ _ _ => simp [GF.append]

theorem den_ne_nil (b : Branch) : ∀ L : GF, den b L ≠ .nil := by
  induction b with
  | leaf d c => intro L; simp [den]
  | chain d c rest ih => intro L; exact ih _
  | brack b ih => intro L; exact GF.append_ne_nil _ _ (ih .nil)
  | b1 d c s1 rest _ ihr => intro L; exact ihr _
  | b2 d c s1 s2 rest _ _ ihr => intro L; exact ihr _
  | b3 d c s1 s2 s3 rest _ _ _ ihr => intro L; exact ihr _

/-- residues of a forest in pre-order -/
def preNames : GF → List Recipe
  | .nil => []
  | .cons _ n k r => n :: (preNames k ++ preNames r)

theorem preNames_append (F G : GF) : preNames (F.append G) = preNames F ++ preNames G := by
  induction F with
  | nil => simp [GF.append, preNames]
  | cons l n k r _ ihr => simp [GF.append, preNames, ihr]

theorem preNames_length (G : GF) : (preNames G).length = G.size := by
  induction G with
  | nil => rfl
  | cons _ _ _ _ a b => simp [preNames, GF.size, a, b]; omega

/-- every residue of the forest is realised and no linkage label contains `?` -/
-- `allFull` and `rootRecipe` (below) live in the namespaces of the property files whose statements name them; they are defined
-- here because the closed forms of this file are stated with them
def Props.C10.allFull (w : WalkCfg) : GF → Bool
  | .nil => true
  | .cons l n kids rest => w.nodeFull n && !(normLabel w n l).contains '?' && allFull w kids && allFull w rest

open Props.C10 (allFull)

theorem addNodeEdge_eq (w : WalkCfg) (p : Nat) (n : Recipe) (l : ConStr) (st : WState) (hp : p ≠ st.nodes.length) :
    addNodeEdge w p n l st = (st.nodes.length,
      ⟨st.nodes ++ [n], st.edges ++ [(p, st.nodes.length, normLabel w n l)],
        st.full && w.nodeFull n && !(normLabel w n l).contains '?'⟩) := by
  simp [addNodeEdge, addNode, addEdge, hp]

/-- hung on the id it is about to get (the walker's convention for a floating part): a node without an edge -/
theorem addNodeEdge_self (w : WalkCfg) (n : Recipe) (l : ConStr) (st : WState) :
    addNodeEdge w st.nodes.length n l st = (st.nodes.length, ⟨st.nodes ++ [n], st.edges, st.full && w.nodeFull n⟩) := by
  simp [addNodeEdge, addNode, addEdge]

/-- whatever it is hung on, a residue becomes the next node -/
theorem addNodeEdge_nodes (w : WalkCfg) (p : Nat) (n : Recipe) (l : ConStr) (st : WState) :
    (addNodeEdge w p n l st).1 = st.nodes.length ∧ (addNodeEdge w p n l st).2.nodes = st.nodes ++ [n] := by
  by_cases h : p = st.nodes.length
  · rw [h, addNodeEdge_self]; exact ⟨rfl, rfl⟩
  · rw [addNodeEdge_eq w p n l st h]; exact ⟨rfl, rfl⟩

/-- the walk appends the residues of a forest in pre-order (also of a floating part, hung on the id its first residue is about to get) -/
theorem flattenOnto_nodes (w : WalkCfg) (F : GF) : ∀ (p : Nat) (st : WState), (flattenOnto w F p st).nodes = st.nodes ++ preNames F := by
  induction F with
  | nil => intro p st; simp [flattenOnto, preNames]
  | cons l n kids rest ihk ihr =>
    intro p st
    rw [flattenOnto, ihr, ihk, (addNodeEdge_nodes w p n l st).2]
    simp [preNames]

/-- **Numbering a forest onto an existing node, in closed form.** (`p < st.nodes.length`, not merely `≠`: the hypothesis has to
    survive the growth of `nodes` in the induction; the other case, a floating part, is `flattenOnto_float`.) -/
theorem flattenOnto_eq (w : WalkCfg) (F : GF) : ∀ (p : Nat) (st : WState), p < st.nodes.length →
    flattenOnto w F p st =
      ⟨st.nodes ++ preNames F, st.edges ++ edgesGF w F p st.nodes.length, st.full && allFull w F⟩ := by
  induction F with
  | nil => intro p st _; simp [flattenOnto, preNames, edgesGF, allFull]
  | cons l n kids rest ihk ihr =>
    intro p st hp
    rw [flattenOnto, addNodeEdge_eq w p n l st (by omega)]
    simp only
    rw [ihk _ _ (by simp), ihr _ _ (by simp; omega)]
    simp [preNames, edgesGF, allFull, preNames_length, Bool.and_assoc, Nat.add_assoc, Nat.add_comm 1]

/-- a floating part (hung on the id its first residue is about to get): that residue gets no edge, and everything else of the
    part – its sub-forest and its siblings alike – hangs on it -/
theorem flattenOnto_float (w : WalkCfg) (l : ConStr) (n : Recipe) (kids rest : GF) (st : WState) :
    flattenOnto w (.cons l n kids rest) st.nodes.length st =
      flattenOnto w (kids.append rest) st.nodes.length ⟨st.nodes ++ [n], st.edges, st.full && w.nodeFull n⟩ := by
  rw [flattenOnto, addNodeEdge_self, flattenOnto_append]

/-! ### pre-order numbering: where the edges of a forest point -/

theorem range'_size_cons (l : ConStr) (nm : Recipe) (kids rest : GF) (n : Nat) :
    List.range' n (GF.cons l nm kids rest).size =
      n :: (List.range' (n + 1) kids.size ++ List.range' (n + 1 + kids.size) rest.size) := by
  rw [GF.size, show 1 + kids.size + rest.size = (kids.size + rest.size) + 1 by omega, List.range'_succ,
    ← List.range'_append_1]

/-- every new id is the child of exactly one edge, in the order the ids are handed out -/
theorem Plan.edges_children (w : WalkCfg) (F : GF) : ∀ (p n : Nat), (edgesGF w F p n).map (·.2.1) = List.range' n F.size := by
  induction F with
  | nil => intro p n; rfl
  | cons l nm kids rest ihk ihr => intro p n; simp [edgesGF, ihk, ihr, range'_size_cons]

/-- an edge of a forest enters one of the forest's nodes, from the node the forest hangs on or from an older one of its own -/
theorem Plan.mem_edgesGF {w : WalkCfg} {F : GF} {p n : Nat} {e : Edge} (h : e ∈ edgesGF w F p n) :
    (e.1 = p ∨ (n ≤ e.1 ∧ e.1 < e.2.1)) ∧ n ≤ e.2.1 ∧ e.2.1 < n + F.size := by
  induction F generalizing p n with
  | nil => simp [edgesGF] at h
  | cons l nm kids rest ihk ihr =>
    simp only [edgesGF, List.mem_cons, List.mem_append] at h
    simp only [GF.size]
    rcases h with rfl | h | h
    · exact ⟨Or.inl rfl, by simp, by simp; omega⟩
    · have := ihk h; omega
    · have := ihr h; omega

/-- an edge of a forest leaves the node the forest hangs on or one of its own, and enters one of its own -/
theorem Plan.edges_range (w : WalkCfg) (F : GF) : ∀ (p n : Nat) (e : Edge), e ∈ edgesGF w F p n →
    (e.1 = p ∨ (n ≤ e.1 ∧ e.1 < n + F.size)) ∧ n ≤ e.2.1 ∧ e.2.1 < n + F.size := by
  intro p n e h
  have := mem_edgesGF h
  omega

theorem Plan.edges_lt {w : WalkCfg} {F : GF} {p n : Nat} {e : Edge} (hpn : p < n) (h : e ∈ edgesGF w F p n) : e.1 < e.2.1 := by
  have := mem_edgesGF h
  omega

/-! ### a whole glycan without floating parts -/

/-- the root residue as the walker stores it: its tokens, plus the anomer written after a blank -/
def Props.C03.rootRecipe (w : WalkCfg) (s : Start) : Recipe :=
  if (s.begin.config.getD []).isEmpty then s.begin.d else s.begin.d ++ [(s.begin.config.getD [], w.tTYPE)]

open Props.C03 (rootRecipe)

/-- what is written to the left of the root residue -/
def Start.forest (s : Start) : GF :=
  match s.begin.branch with
  | none => .nil
  | some br => den br .nil

theorem walkStart_nofloats (w : WalkCfg) (s : Start) (hf : s.floats = []) :
    walkStart w s =
      ⟨rootRecipe w s :: preNames s.forest, edgesGF w s.forest 0 1, w.nodeFull (rootRecipe w s) && allFull w s.forest⟩ := by
  rw [walkStart_eq_denStart]
  simp only [denStart, hf, List.foldl_nil, addNode, WState.init, Start.forest, rootRecipe]
  cases s.begin.branch with
  | none => simp [preNames, edgesGF, allFull]
  | some br => simp [flattenOnto_eq]

/-! ### which residues, and the shape the property theorems state -/

/-- the residues of a branch as written, left to right -/
def Branch.written : Branch → List Recipe
  | .leaf d _ => [d]
  | .chain d _ rest => d :: rest.written
  | .brack b => b.written
  | .b1 d _ s1 rest => d :: (s1.written ++ rest.written)
  | .b2 d _ s1 s2 rest => d :: (s1.written ++ s2.written ++ rest.written)
  | .b3 d _ s1 s2 s3 rest => d :: (s1.written ++ s2.written ++ s3.written ++ rest.written)

/-- counted: a branch contributes the residues written in it, whatever the order `den` puts them in -/
theorem den_names_count (a : Recipe) (b : Branch) (L : GF) :
    (preNames (den b L)).count a = b.written.count a + (preNames L).count a := by
  induction b generalizing L <;>
    simp only [den, Branch.written, preNames, preNames_append, List.count_append, List.count_cons, List.count_nil, *] <;> omega

/-- every written residue becomes exactly one residue of the forest, and nothing else does -/
theorem den_names_perm (b : Branch) : ∀ L : GF, (preNames (den b L)).Perm (b.written ++ preNames L) :=
  fun L => List.perm_iff_count.mpr fun a => by rw [den_names_count, List.count_append]

/-- Numbering a forest onto an existing node: the new nodes are the forest's residues in pre-order; every new edge points from
    `parent` or a new node to a new node with a larger id; the children of the new edges are the new ids, each exactly once,
    in increasing order. -/
theorem flatten_shape (w : WalkCfg) (F : GF) : ∀ (p : Nat) (st : WState), p < st.nodes.length →
    (flattenOnto w F p st).nodes = st.nodes ++ preNames F ∧
    ∃ es, (flattenOnto w F p st).edges = st.edges ++ es ∧
      es.map (·.2.1) = List.range' st.nodes.length F.size ∧
      ∀ e ∈ es, e.1 < e.2.1 ∧ (e.1 = p ∨ st.nodes.length ≤ e.1) := by
  intro p st hp
  rw [flattenOnto_eq w F p st hp]
  exact ⟨rfl, _, rfl, Plan.edges_children w F p _, fun e he =>
    ⟨Plan.edges_lt hp he, (Plan.mem_edgesGF he).1.imp_right (·.1)⟩⟩

end Gly
