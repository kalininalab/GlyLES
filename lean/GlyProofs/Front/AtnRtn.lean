import GlyProofs.Front.AtnSound
import GlyProofs.Front.ParseSound
/-
  From the per-rule equivalence (regular languages over token types + rule references) to the token languages:
  the rule languages of the grammar are the least solution of the recursive-transition-network equations of the ATN.
-/
namespace Gly.Atn

/-- a word over (token types + rule references) expanded to a token string: a token type by any token of that type, a rule
    reference by any string of the family `X` -/
inductive Expand (X : Nat → List Token → Prop) : List Sym → List Token → Prop
  | nil : Expand X [] []
  | tok {t : Nat} {σ : List Sym} {w : List Token} (x : Token) : x.ty = t → Expand X σ w → Expand X (.tok t :: σ) (x :: w)
  | ref {r : Nat} {σ : List Sym} {u w : List Token} : X r u → Expand X σ w → Expand X (.ref r :: σ) (u ++ w)

theorem expand_append {X : Nat → List Token → Prop} {σ1 σ2 : List Sym} {w1 w2 : List Token}
    (h1 : Expand X σ1 w1) (h2 : Expand X σ2 w2) : Expand X (σ1 ++ σ2) (w1 ++ w2) := by
  induction h1 with
  | nil => exact h2
  | tok x hx _ ih => exact Expand.tok x hx ih
  | ref hu _ ih => rw [List.append_assoc]; exact Expand.ref hu ih

theorem expand_append_inv {X : Nat → List Token → Prop} {σ1 σ2 : List Sym} {w : List Token}
    (h : Expand X (σ1 ++ σ2) w) : ∃ w1 w2, w = w1 ++ w2 ∧ Expand X σ1 w1 ∧ Expand X σ2 w2 := by
  induction σ1 generalizing w with
  | nil => exact ⟨[], w, rfl, Expand.nil, h⟩
  | cons s σ1 ih =>
    cases h with
    | tok x hx h' =>
      obtain ⟨w1, w2, rfl, h1, h2⟩ := ih h'
      exact ⟨x :: w1, w2, rfl, Expand.tok x hx h1, h2⟩
    | ref hu h' =>
      obtain ⟨w1, w2, rfl, h1, h2⟩ := ih h'
      exact ⟨_ ++ w1, w2, (List.append_assoc ..).symm, Expand.ref hu h1, h2⟩

theorem expand_mono {X Y : Nat → List Token → Prop} (hXY : ∀ r w, X r w → Y r w) {σ : List Sym} {w : List Token}
    (h : Expand X σ w) : Expand Y σ w := by
  induction h with
  | nil => exact Expand.nil
  | tok x hx _ ih => exact Expand.tok x hx ih
  | ref hu _ ih => exact Expand.ref (hXY _ _ hu) ih

/-- the language family of the grammar: what each rule derives -/
def D (g : Grammar) (r : Nat) (w : List Token) : Prop := Derives g (g.rule r) w

/-- A derivation is a flat word of the expression, expanded over `Y` – for any family `Y` that contains a string rule `r`
    derives as soon as that string is itself such an expansion of a flat word of `r`'s right-hand side (with `Y = D g` the side
    condition is not needed; with `Y` closed under the ATN's equations it is what closedness consumes). -/
theorem derives_flat (g : Grammar) (Y : Nat → List Token → Prop)
    (hY : ∀ r w, D g r w → (∃ σ, Flat (g.rule r) σ ∧ Expand Y σ w) → Y r w) {e : Rx} {w : List Token}
    (h : Derives g e w) : ∃ σ, Flat e σ ∧ Expand Y σ w := by
  induction h with
  | eps => exact ⟨[], Flat.eps, Expand.nil⟩
  | @tok t x hx => exact ⟨[.tok t], Flat.tok t, Expand.tok x hx Expand.nil⟩
  | @ref r w h ih =>
    exact ⟨[.ref r], Flat.ref r, List.append_nil w ▸ Expand.ref (hY r w h ih) Expand.nil⟩
  | seq _ _ iha ihb =>
    obtain ⟨σ1, f1, e1⟩ := iha
    obtain ⟨σ2, f2, e2⟩ := ihb
    exact ⟨σ1 ++ σ2, Flat.seq f1 f2, expand_append e1 e2⟩
  | altL _ ih => obtain ⟨σ, f, e⟩ := ih; exact ⟨σ, Flat.altL f, e⟩
  | altR _ ih => obtain ⟨σ, f, e⟩ := ih; exact ⟨σ, Flat.altR f, e⟩
  | starNil => exact ⟨[], Flat.starNil, Expand.nil⟩
  | starCons _ _ iha ihb =>
    obtain ⟨σ1, f1, e1⟩ := iha
    obtain ⟨σ2, f2, e2⟩ := ihb
    exact ⟨σ1 ++ σ2, Flat.starCons f1 f2, expand_append e1 e2⟩

/-- conversely, a flat word of `e` whose letters expand to `w` derives `w` -/
theorem flat_derives (g : Grammar) {e : Rx} {σ : List Sym} (h : Flat e σ) {w : List Token} (hw : Expand (D g) σ w) :
    Derives g e w := by
  induction h generalizing w with
  | eps => cases hw; exact Derives.eps
  | tok t =>
    cases hw with
    | tok x hx h' => cases h'; exact Derives.tok x hx
  | ref r =>
    cases hw with
    | ref hu h' => cases h'; exact List.append_nil _ ▸ Derives.ref hu
  | seq _ _ iha ihb =>
    obtain ⟨w1, w2, rfl, h1, h2⟩ := expand_append_inv hw
    exact Derives.seq (iha h1) (ihb h2)
  | altL _ ih => exact Derives.altL (ih hw)
  | altR _ ih => exact Derives.altR (ih hw)
  | starNil => cases hw; exact Derives.starNil
  | starCons _ _ iha ihb =>
    obtain ⟨w1, w2, rfl, h1, h2⟩ := expand_append_inv hw
    exact Derives.starCons (iha h1) (ihb h2)

/-- what "the ATN, read as a recursive transition network, accepts" means for a family of languages -/
def RtnClosed (atn : List RuleNfa) (Y : Nat → List Token → Prop) : Prop :=
  ∀ r σ w, Path (atn.getD r default) (atn.getD r default).start σ (atn.getD r default).stop → Expand Y σ w → Y r w

/-- **From rules to languages.** If every rule's sub-automaton agrees with the rule's right-hand side (`ruleOk`), then the
    grammar's rule languages (i) satisfy the recursive-transition-network equations of the ATN – a token string is derived by
    rule `r` iff it is the expansion of a word accepted by `r`'s sub-automaton, rule references expanded by what those rules
    derive – and (ii) are contained in every family closed under those equations: they are the least solution, i.e. the language
    of the ATN read as a recursive transition network. -/
theorem rtn_language (g : Grammar) (atn : List RuleNfa)
    (hok : ∀ r, r < g.rules.length → ruleOk (atn.getD r default) (g.rule r) = true) :
    (∀ r, r < g.rules.length → ∀ w, D g r w ↔
        ∃ σ, Path (atn.getD r default) (atn.getD r default).start σ (atn.getD r default).stop ∧ Expand (D g) σ w) ∧
    (∀ Y, RtnClosed atn Y → (∀ r, g.rules.length ≤ r → ∀ w, D g r w → Y r w) → ∀ r w, D g r w → Y r w) := by
  constructor
  · intro r hr w
    simp only [← ruleOk_iff (hok r hr)]
    exact ⟨derives_flat g (D g) fun _ _ h _ => h, fun ⟨_, hf, he⟩ => flat_derives g hf he⟩
  · intro Y hY hout r w h
    -- a string that is an expansion over `Y` of a flat word of rule `r` is in `Y r`: by closedness, or because `r` is no rule
    have hstep : ∀ r w, D g r w → (∃ σ, Flat (g.rule r) σ ∧ Expand Y σ w) → Y r w := fun r w h ⟨σ, hf, he⟩ =>
      if hr : r < g.rules.length then hY r σ w ((ruleOk_iff (hok r hr) σ).mp hf) he else hout r (by omega) w h
    exact hstep r w h (derives_flat g Y hstep h)

end Gly.Atn
