import GlyModel.Front.Lexer
import GlyProofs.ListLemmas
namespace Gly

/-- Declarative language of one lexer alternative. -/
inductive AltDerives : LexAlt → List Char → Prop
  | nil : AltDerives [] []
  | cons {it : CItem} {rest : LexAlt} {c : Char} {w : List Char} :
      it.star = false → it.matches c = true → AltDerives rest w → AltDerives (it :: rest) (c :: w)
  | star {it : CItem} {w : List Char} :
      it.star = true → (∀ c ∈ w, it.matches c = true) → AltDerives [it] w

def RuleDerives (r : LexRule) (w : List Char) : Prop := ∃ a ∈ r.alts, AltDerives a w

theorem matchAlt_sound {a : LexAlt} {inp : List Char} {n : Nat} (h : matchAlt a inp = some n) :
    n ≤ inp.length ∧ AltDerives a (inp.take n) := by
  fun_induction matchAlt a inp generalizing n with
  | case1 =>
    cases h
    exact ⟨Nat.zero_le _, .nil⟩
  | case2 it inp hs =>
    -- a starred last item: `takeWhile` returns a prefix of the input, all of whose characters match
    cases h
    have hp := List.takeWhile_prefix (l := inp) it.matches
    rw [← List.prefix_iff_eq_take.mp hp]
    exact ⟨hp.length_le, .star hs (List.all_eq_true.mp List.all_takeWhile)⟩
  | case3 | case4 | case6 => cases h
  | case5 it rest hs c cs hm ih =>
    obtain ⟨m, hm', rfl⟩ := Option.map_eq_some_iff.mp h
    exact ⟨Nat.succ_le_succ (ih hm').1, .cons (Bool.eq_false_iff.mpr hs) hm (ih hm').2⟩

theorem matchAlt_max {a : LexAlt} {w inp : List Char} (hd : AltDerives a w) (hp : w <+: inp) :
    ∃ n, matchAlt a inp = some n ∧ w.length ≤ n := by
  obtain ⟨t, rfl⟩ := hp
  induction hd with
  | nil => exact ⟨0, rfl, Nat.le_refl _⟩
  | @cons it rest c w hs hm _ ih =>
    obtain ⟨n, hn, hle⟩ := ih
    exact ⟨n + 1, by simp [matchAlt, hs, hm, hn], Nat.succ_le_succ hle⟩
  | @star it w hs hall =>
    refine ⟨(List.takeWhile it.matches (w ++ t)).length, by simp only [matchAlt, hs, if_true], ?_⟩
    rw [List.takeWhile_append_of_pos hall, List.length_append]
    exact Nat.le_add_right _ _

theorem ruleLen_max {r : LexRule} {w inp : List Char} (h : RuleDerives r w) (hp : w <+: inp) :
    w.length ≤ ruleLen r inp := by
  obtain ⟨a, ha, hd⟩ := h
  obtain ⟨n, hn, hle⟩ := matchAlt_max hd hp
  have := (foldl_max_spec (fun a => (matchAlt a inp).getD 0) r.alts 0).2.1 a ha
  rw [hn] at this
  exact Nat.le_trans hle this

theorem ruleLen_sound {r : LexRule} {inp : List Char} (h : 0 < ruleLen r inp) :
    ruleLen r inp ≤ inp.length ∧ RuleDerives r (inp.take (ruleLen r inp)) := by
  rcases (foldl_max_spec (fun a => (matchAlt a inp).getD 0) r.alts 0).2.2 with h0 | ⟨a, ha, heq⟩
  · exact absurd h0 (Nat.ne_of_gt h)
  · rw [ruleLen, heq] at h ⊢
    cases hm : matchAlt a inp with
    | none =>
      rw [hm] at h
      cases h
    | some n => exact ⟨(matchAlt_sound hm).1, a, ha, (matchAlt_sound hm).2⟩

/-- the length the scan has to beat -/
def accLen : Option (TokType × Nat) → Nat
  | none => 0
  | some (_, m) => m

/-- one step of the scan, the empty and the non-empty accumulator alike: a strictly longer match replaces what was there -/
theorem bestRule_cons (r : LexRule) (rs : List LexRule) (inp : List Char) (acc : Option (TokType × Nat)) :
    bestRule (r :: rs) inp acc =
      bestRule rs inp (if accLen acc < ruleLen r inp then some (r.ty, ruleLen r inp) else acc) := by
  rcases acc with _ | ⟨t, m⟩ <;> rfl

/-- the scan's result is at least as long as the accumulator and as every rule's match, and is the accumulator or the match of a rule -/
theorem bestRule_scan (rs : List LexRule) (inp : List Char) (acc : Option (TokType × Nat)) :
    (accLen acc ≤ accLen (bestRule rs inp acc) ∧ ∀ r ∈ rs, ruleLen r inp ≤ accLen (bestRule rs inp acc)) ∧
    (bestRule rs inp acc = acc ∨ ∃ r ∈ rs, 0 < ruleLen r inp ∧ bestRule rs inp acc = some (r.ty, ruleLen r inp)) := by
  induction rs generalizing acc with
  | nil => exact ⟨⟨Nat.le_refl _, nofun⟩, .inl rfl⟩
  | cons r rs ih =>
    rw [bestRule_cons]
    by_cases hn : accLen acc < ruleLen r inp
    · rw [if_pos hn]
      obtain ⟨⟨hacc, hall⟩, hatt⟩ := ih (some (r.ty, ruleLen r inp))
      refine ⟨⟨Nat.le_trans (Nat.le_of_lt hn) hacc, List.forall_mem_cons.mpr ⟨hacc, hall⟩⟩, .inr ?_⟩
      rcases hatt with h | ⟨r', hr', h⟩
      · exact ⟨r, List.mem_cons_self, Nat.zero_lt_of_lt hn, h⟩
      · exact ⟨r', List.mem_cons_of_mem _ hr', h⟩
    · rw [if_neg hn]
      obtain ⟨⟨hacc, hall⟩, hatt⟩ := ih acc
      exact ⟨⟨hacc, List.forall_mem_cons.mpr ⟨Nat.le_trans (Nat.le_of_not_lt hn) hacc, hall⟩⟩,
        hatt.imp_right fun ⟨r', hr', h⟩ => ⟨r', List.mem_cons_of_mem _ hr', h⟩⟩

/-- One lexer step is a maximal munch. -/
theorem bestRule_spec {rules : List LexRule} {inp : List Char} {t : TokType} {n : Nat}
    (h : bestRule rules inp none = some (t, n)) :
    0 < n ∧ n ≤ inp.length ∧
    (∃ r ∈ rules, r.ty = t ∧ RuleDerives r (inp.take n)) ∧
    (∀ r ∈ rules, ∀ w, RuleDerives r w → w <+: inp → w.length ≤ n) := by
  obtain ⟨⟨_, hall⟩, hatt⟩ := bestRule_scan rules inp none
  rw [h] at hall hatt
  obtain ⟨r, hr, hpos, e⟩ := hatt.resolve_left nofun
  cases e
  exact ⟨hpos, (ruleLen_sound hpos).1, ⟨r, hr, rfl, (ruleLen_sound hpos).2⟩,
    fun r' hr' w hw hp => Nat.le_trans (ruleLen_max hw hp) (hall r' hr')⟩

theorem bestRule_none (rules : List LexRule) (inp : List Char) (h : bestRule rules inp none = none) :
    ∀ r ∈ rules, ∀ w, RuleDerives r w → w <+: inp → w = [] := by
  have hall := (bestRule_scan rules inp none).1.2
  rw [h] at hall
  intro r hr w hw hp
  exact List.length_eq_zero_iff.mp (Nat.le_zero.mp (Nat.le_trans (ruleLen_max hw hp) (hall r hr)))

/-- A tokenisation in which every token is the maximal munch at its position. -/
inductive MaxMunch (rules : List LexRule) : List Char → List Token → Prop
  | nil : MaxMunch rules [] []
  | cons {inp : List Char} {t : Token} {ts : List Token} :
      t.text ≠ [] → t.text <+: inp →
      (∃ r ∈ rules, r.ty = t.ty ∧ RuleDerives r t.text) →
      (∀ r ∈ rules, ∀ w, RuleDerives r w → w <+: inp → w.length ≤ t.text.length) →
      MaxMunch rules (inp.drop t.text.length) ts →
      MaxMunch rules inp (t :: ts)

theorem lexGo_spec {rules : List LexRule} {fuel : Nat} {inp : List Char} {ts : List Token}
    (h : lexGo rules fuel inp = some ts) : MaxMunch rules inp ts := by
  fun_induction lexGo rules fuel inp generalizing ts with
  | case1 =>
    cases h
    exact .nil
  | case2 | case3 | case4 => cases h
  | case5 fuel inp hne ty n hb rest hr ih =>
    cases h
    obtain ⟨hpos, hle, hex, hmax⟩ := bestRule_spec hb
    have hlen : (Token.mk ty (inp.take n)).text.length = n := List.length_take_of_le hle
    refine .cons (fun h0 => ?_) (List.take_prefix _ _) hex ?_ ?_
    · rw [h0] at hlen
      exact Nat.ne_of_lt hpos hlen
    · rwa [hlen]
    · rw [hlen]
      exact ih hr

theorem MaxMunch.concat {rules : List LexRule} {inp : List Char} {ts : List Token}
    (h : MaxMunch rules inp ts) : (ts.map (·.text)).flatten = inp := by
  induction h with
  | nil => rfl
  | @cons inp t ts _ hp _ _ _ ih =>
    obtain ⟨s, rfl⟩ := hp
    rw [List.map_cons, List.flatten_cons, ih, List.drop_left]

/-- The lexer model is longest-match tokenisation over the regenerated token table. -/
theorem lex_spec {rules : List LexRule} {inp : List Char} {ts : List Token} (h : lex rules inp = some ts) :
    MaxMunch rules inp ts ∧ (ts.map (·.text)).flatten = inp :=
  ⟨lexGo_spec h, (lexGo_spec h).concat⟩

end Gly
