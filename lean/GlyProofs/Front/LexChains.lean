import GlyProofs.Front.AtnSound
import GlyProofs.ListLemmas
/-
  Token rules that are lists of literals, checked in one pass. ANTLR serializes such a rule as
  `start –ε→ hin`, `hin –ε→` the first state of one chain of symbol edges per literal, every chain ending in `hout`, `hout –ε→ stop`.
  `chainsOk` reads the edge list once as that bundle of chains; `chainsOk_sound` shows that such an automaton accepts exactly the
  words of its chains. (`lexRuleOk` enumerates the accepted words from the start state instead, filtering the whole edge list and
  looking up a rank at every state: quadratic, which is slow in the kernel on the two large rules.)
-/
namespace Gly.Atn

/-- consecutive edges with the same source and the same target merged into one edge labelled by a set of symbols (ANTLR writes
    alternatives of single characters as one set transition) -/
def group : List (Nat × Sym × Nat) → List (Nat × List Sym × Nat)
  | [] => []
  | (a, c, b) :: es =>
    match group es with
    | (a', S, b') :: g => if a = a' ∧ b = b' then (a, c :: S, b) :: g else (a, [c], b) :: (a', S, b') :: g
    | [] => [(a, [c], b)]

/-- a list of set-labelled edges read as consecutive chains into `hout`: first state and words of each chain (`none`: an edge does
    not start where the one before it ended) -/
def chainsOf (hout : Nat) : List (Nat × List Sym × Nat) → Option (List (Nat × List (List Sym)))
  | [] => some []
  | (a, S, b) :: es =>
    match chainsOf hout es with
    | none => none
    | some cs =>
      if b = hout then some ((a, S.map ([·])) :: cs)
      else match cs with
        | (f, U) :: cs' => if f = b then some ((a, S.flatMap (fun s => U.map (s :: ·))) :: cs') else none
        | [] => none

def increasing : List Nat → Bool
  | a :: b :: l => a < b && increasing (b :: l)
  | _ => true

/-- the automaton is the bundle of chains described above, the chains spell `lits` in order, no state is the source of two
    (set-labelled) edges – sources increase along the list – and none of the four named states, which are distinct, is the source
    of an edge -/
def chainsOk (n : RuleNfa) (hin hout : Nat) (lits : List (List Sym)) : Bool :=
  match chainsOf hout (group n.edges) with
  | some cs =>
    n.eps == (n.start, hin) :: cs.map (fun c => (hin, c.1)) ++ [(hout, n.stop)] &&
    cs.flatMap (·.2) == lits &&
    increasing ((group n.edges).map (·.1)) &&
    [n.start, hin, hout, n.stop].all (fun x => (group n.edges).all (fun e => e.1 != x)) &&
    decide ([n.start, hin, hout, n.stop].Nodup)
  | none => false

theorem flatMap_group (es : List (Nat × Sym × Nat)) :
    (group es).flatMap (fun (a, S, b) => S.map fun c => (a, c, b)) = es := by
  -- in every case the groups of `e :: es`, spelt out, are `e` followed by the groups of `es`, spelt out
  fun_induction group es with
  | case1 => rfl
  | case2 a c b es _ S _ g hg hab ih =>
    obtain ⟨rfl, rfl⟩ := hab
    rw [← ih, hg]
    rfl
  | case3 a c b es _ _ _ _ hg _ ih =>
    rw [← ih, hg]
    rfl
  | case4 a c b es hg ih =>
    rw [← ih, hg]
    rfl

theorem mem_group (es : List (Nat × Sym × Nat)) (a : Nat) (c : Sym) (b : Nat) :
    (a, c, b) ∈ es ↔ ∃ S, (a, S, b) ∈ group es ∧ c ∈ S := by
  rw (occs := .pos [1]) [← flatMap_group es]
  simp only [List.mem_flatMap, List.mem_map, Prod.mk.injEq, Prod.exists]
  exact ⟨fun ⟨_, S, _, h, _, hc, rfl, rfl, rfl⟩ => ⟨S, h, hc⟩, fun ⟨S, h, hc⟩ => ⟨a, S, b, h, c, hc, rfl, rfl, rfl⟩⟩

theorem increasing_pairwise : ∀ l : List Nat, increasing l = true → l.Pairwise (· < ·)
  | [], _ => List.Pairwise.nil
  | [_], _ => List.pairwise_singleton _ _
  | a :: b :: l, h => by
    simp only [increasing, Bool.and_eq_true, decide_eq_true_eq] at h
    have ih := increasing_pairwise (b :: l) h.2
    exact ih.cons (List.forall_mem_cons.mpr ⟨h.1, fun x hx => Nat.lt_trans h.1 (List.rel_of_pairwise_cons ih hx)⟩)

section
variable {n : RuleNfa} {G : List (Nat × List Sym × Nat)} (hG : ∀ a c b, (a, c, b) ∈ n.edges ↔ ∃ S, (a, S, b) ∈ G ∧ c ∈ S)
include hG

/-- a state whose only transitions are the edges `(a, s, b)`, `s ∈ S` -/
theorem path_of_only_edge {a b : Nat} {S : List Sym} (he : (a, S, b) ∈ G)
    (huniq : ∀ e ∈ G, e.1 = a → e = (a, S, b)) (hne : ∀ q, (a, q) ∉ n.eps) (hs : a ≠ n.stop) (w : List Sym) :
    Path n a w n.stop ↔ ∃ s ∈ S, ∃ w', Path n b w' n.stop ∧ s :: w' = w := by
  constructor
  · intro hp
    cases hp with
    | refl => exact absurd rfl hs
    | eps h _ => exact absurd h (hne _)
    | sym h hp' =>
      obtain ⟨T, hT, hc⟩ := (hG _ _ _).mp h
      cases huniq _ hT rfl
      exact ⟨_, hc, _, hp', rfl⟩
  · rintro ⟨s, hs, w', hp, rfl⟩
    exact Path.sym ((hG _ _ _).mpr ⟨S, he, hs⟩) hp

/-- from the first state of a chain exactly the chain's words lead to `stop` -/
theorem chainsOf_spec {hout : Nat} (huniq : ∀ e ∈ G, ∀ e' ∈ G, e.1 = e'.1 → e = e')
    (hne : ∀ e ∈ G, ∀ q, (e.1, q) ∉ n.eps) (hs : ∀ e ∈ G, e.1 ≠ n.stop)
    (hout_spec : ∀ w, Path n hout w n.stop ↔ w = []) {es : List (Nat × List Sym × Nat)} {cs : List (Nat × List (List Sym))}
    (hsub : ∀ e ∈ es, e ∈ G) (h : chainsOf hout es = some cs) : ∀ c ∈ cs, ∀ w, Path n c.1 w n.stop ↔ w ∈ c.2 := by
  have step {a S b} (hmem : (a, S, b) ∈ G) :=
    path_of_only_edge hG hmem (fun e he h1 => huniq e he _ hmem h1) (hne _ hmem) (hs _ hmem)
  fun_induction chainsOf hout es generalizing cs with
  | case1 =>
    cases h
    nofun
  | case2 | case5 | case6 => cases h
  | case3 a S es cs h0 ih =>
    -- the edge ends in `hout`: a chain of its own
    cases h
    obtain ⟨hmem, hsub⟩ := List.forall_mem_cons.mp hsub
    refine List.forall_mem_cons.mpr ⟨fun w => ?_, ih hsub h0⟩
    simp only [step hmem, hout_spec, exists_eq_left, List.mem_map]
  | case4 a S es f U cs _ h0 ih =>
    -- the edge ends where the chain after it begins: it prolongs that chain
    cases h
    obtain ⟨hmem, hsub⟩ := List.forall_mem_cons.mp hsub
    obtain ⟨ihf, ih⟩ := List.forall_mem_cons.mp (ih hsub h0)
    refine List.forall_mem_cons.mpr ⟨fun w => ?_, ih⟩
    simp only [step hmem, ihf, List.mem_flatMap, List.mem_map]

end

/-- a state that has ε-transitions only, to the states `T` -/
theorem path_of_only_eps {n : RuleNfa} {a : Nat} {T : List Nat} (hT : ∀ q, (a, q) ∈ n.eps ↔ q ∈ T)
    (hed : ∀ s q, (a, s, q) ∉ n.edges) (w : List Sym) :
    Path n a w n.stop ↔ (a = n.stop ∧ w = []) ∨ ∃ q ∈ T, Path n q w n.stop := by
  constructor
  · intro hp
    cases hp with
    | refl => exact .inl ⟨rfl, rfl⟩
    | eps he hp' => exact .inr ⟨_, (hT _).mp he, hp'⟩
    | sym he _ => exact absurd he (hed _ _)
  · rintro (⟨rfl, rfl⟩ | ⟨q, hq, hp⟩)
    · exact Path.refl _
    · exact Path.eps ((hT _).mpr hq) hp

/-- the four named states have ε-transitions only (`hE`: start → `hin` → chain heads, `hout` → stop), the chain states symbol edges
    only, one group each (`increasing`): so a word is accepted from `start` iff it is the word of a chain (`chainsOf_spec`) -/
theorem chainsOk_sound {n : RuleNfa} {hin hout : Nat} {lits : List (List Sym)} (h : chainsOk n hin hout lits = true) (w : List Sym) :
    Path n n.start w n.stop ↔ w ∈ lits := by
  unfold chainsOk at h
  cases hcs : chainsOf hout (group n.edges) with
  | none => simp [hcs] at h
  | some cs =>
    simp only [hcs, Bool.and_eq_true, beq_iff_eq, decide_eq_true_eq, List.all_eq_true, bne_iff_ne, ne_eq] at h
    obtain ⟨⟨⟨⟨heps, hl⟩, hinc⟩, hsrc⟩, hnd⟩ := h
    simp only [List.nodup_cons, List.mem_cons, List.not_mem_nil, or_false, not_or, not_false_eq_true, List.nodup_nil, and_true] at hnd
    obtain ⟨⟨h12, h13, h14⟩, ⟨h23, h24⟩, h34⟩ := hnd
    have hG := mem_group n.edges
    have hE : ∀ a b, (a, b) ∈ n.eps ↔ (a = n.start ∧ b = hin) ∨ (a = hin ∧ b ∈ cs.map (·.1)) ∨ (a = hout ∧ b = n.stop) := by
      intro a b
      rw [heps]
      simp only [List.mem_cons, List.mem_append, List.mem_map, Prod.mk.injEq, List.not_mem_nil, or_false, or_assoc]
      exact or_congr_right (or_congr_left
        ⟨fun ⟨c, hc, e1, e2⟩ => ⟨e1.symm, c, hc, e2⟩, fun ⟨e1, c, hc, e2⟩ => ⟨c, hc, e1.symm, e2⟩⟩)
    -- none of the four named states has a symbol edge, no source of a symbol edge has an ε-transition
    have hed : ∀ x ∈ [n.start, hin, hout, n.stop], ∀ s q, (x, s, q) ∉ n.edges := fun x hx s q hm =>
      let ⟨_, hS, _⟩ := (hG _ _ _).mp hm
      hsrc x hx _ hS rfl
    have hne : ∀ e ∈ group n.edges, ∀ q, (e.1, q) ∉ n.eps := by
      intro e he q hq
      rcases (hE _ _).mp hq with ⟨h, _⟩ | ⟨h, _⟩ | ⟨h, _⟩ <;> exact hsrc _ (by simp) e he h
    have hstop : ∀ w, Path n n.stop w n.stop ↔ w = [] := fun w => by
      rw [path_of_only_eps (T := []) (fun q => by simp [hE, Ne.symm h14, Ne.symm h24, Ne.symm h34]) (hed _ (by simp))]
      simp
    have hout_spec : ∀ w, Path n hout w n.stop ↔ w = [] := fun w => by
      rw [path_of_only_eps (T := [n.stop]) (fun q => by simp [hE, Ne.symm h13, Ne.symm h23]) (hed _ (by simp))]
      simp [h34, hstop]
    have huniq : ∀ e ∈ group n.edges, ∀ e' ∈ group n.edges, e.1 = e'.1 → e = e' := fun e he e' he' =>
      injOn_of_map_pairwise (f := (·.1)) ((increasing_pairwise _ hinc).imp Nat.ne_of_lt) he he'
    have hch := chainsOf_spec hG huniq hne (hsrc _ (by simp)) hout_spec (fun _ he => he) hcs
    rw [path_of_only_eps (T := [hin]) (fun q => by simp [hE, h12, h13]) (hed _ (by simp))]
    simp only [h14, false_and, false_or, List.mem_singleton, exists_eq_left]
    rw [path_of_only_eps (T := cs.map (·.1)) (fun q => by simp [hE, Ne.symm h12, h23]) (hed _ (by simp)), ← hl]
    simp only [h24, false_and, false_or, List.mem_map, List.mem_flatMap]
    exact ⟨fun ⟨_, ⟨c, hc, e⟩, hp⟩ => ⟨c, hc, (hch c hc w).mp (e ▸ hp)⟩,
      fun ⟨c, hc, hw⟩ => ⟨_, ⟨c, hc, rfl⟩, (hch c hc w).mpr hw⟩⟩

/-- a token rule that the token table gives as a list of literals: same token type, and the rule's sub-automaton is the bundle of
    chains of these literals (the two hubs are read off the first and the last ε-transition) -/
def litRuleOk (l : LexNfa) (r : LexRule) : Bool :=
  match literalsOf r, l.nfa.eps.head?, l.nfa.eps.getLast? with
  | some lits, some (_, hin), some (hout, _) => l.ty == r.ty && chainsOk l.nfa hin hout lits
  | _, _, _ => false

theorem litRuleOk_sound (l : LexNfa) (r : LexRule) (h : litRuleOk l r = true) :
    l.ty = r.ty ∧ ∃ lits, literalsOf r = some lits ∧ ∀ w, Path l.nfa l.nfa.start w l.nfa.stop ↔ w ∈ lits := by
  unfold litRuleOk at h
  split at h
  · next lits _ hin hout _ hl _ _ =>
    simp only [Bool.and_eq_true, beq_iff_eq] at h
    exact ⟨h.1, lits, hl, chainsOk_sound h.2⟩
  · cases h

end Gly.Atn
