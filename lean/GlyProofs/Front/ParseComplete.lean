import GlyProofs.Front.ParseSound
/-
  Completeness of the parser as a recogniser. The parser is read through `Reach` – which remainders it can get to, whatever the
  trees – and `Reach` satisfies, fuel step by fuel step, the equations one would write down for a recogniser of `Rx`; deduplication
  drops out of them because all remainders are suffixes of one input, so equal length means equal.
-/
namespace Gly

/-- deduplication keeps exactly the remainder lengths that were there and had not been seen -/
theorem dedupGo_lengths (xs : PRes) (seen : List Nat) (m : Nat) :
    (∃ x ∈ dedupGo xs seen, x.2.length = m) ↔ m ∉ seen ∧ ∃ x ∈ xs, x.2.length = m := by
  fun_induction dedupGo xs seen with
  | case1 => simp
  | case2 k r ys seen hc ih =>
    -- `(k, r)` is dropped, and its length is none of those the right-hand side speaks of
    have : r.length ∈ seen := by simpa using hc
    rw [ih]
    grind
  | case3 k r ys seen hc ih =>
    -- `(k, r)` is kept and its length counts as seen from here on
    have : r.length ∉ seen := by simpa using hc
    simp only [List.mem_cons, exists_eq_or_imp, ih]
    grind

/-- the remainders the parser can get to -/
def Reach (g : Grammar) (fuel : Nat) (e : Rx) (inp r : List Token) : Prop := ∃ k, (k, r) ∈ parseRx g fuel e inp

variable {g : Grammar} {n : Nat} {a b : Rx} {inp r : List Token}

theorem Reach.suffix {fuel : Nat} {e : Rx} (h : Reach g fuel e inp r) : r <:+ inp :=
  let ⟨k, hk⟩ := h; ⟨PT.yieldList k, (parseRx_sound g hk).1.symm⟩

/-- deduplication loses no remainder of a list of suffixes of one input -/
theorem reach_dedup {xs : PRes} (hs : ∀ x ∈ xs, x.2 <:+ inp) : (∃ k, (k, r) ∈ dedup xs) ↔ ∃ k, (k, r) ∈ xs := by
  refine ⟨fun ⟨k, h⟩ => ⟨k, mem_of_mem_dedup h⟩, fun ⟨k, h⟩ => ?_⟩
  obtain ⟨⟨k', r'⟩, hm, hl⟩ := (dedupGo_lengths xs [] r.length).mpr ⟨nofun, _, h, rfl⟩
  have : r' = r := (List.suffix_of_suffix_length_le (hs _ (mem_of_mem_dedup hm)) (hs _ h) (Nat.le_of_eq hl)).eq_of_length hl
  exact ⟨k', this ▸ hm⟩

theorem reach_eps : Reach g (n + 1) .eps inp r ↔ r = inp := by simp [Reach, parseRx]

theorem reach_tok {t : TokType} : Reach g (n + 1) (.tok t) inp r ↔ ∃ x, x.ty = t ∧ inp = x :: r := by
  cases inp with
  | nil => simp [Reach, parseRx]
  | cons y ys =>
    simp only [Reach, parseRx, List.mem_ite_nil_right, List.mem_singleton, Prod.mk.injEq, List.cons.injEq]
    exact ⟨fun ⟨_, hy, _, e⟩ => ⟨y, hy, rfl, e.symm⟩, fun ⟨_, hx, e, e'⟩ => ⟨_, e ▸ hx, rfl, e'.symm⟩⟩

theorem reach_ref {rr : Nat} : Reach g (n + 1) (.ref rr) inp r ↔ Reach g n (g.rule rr) inp r := by
  simp only [Reach, parseRx, List.mem_map, Prod.exists, Prod.mk.injEq]
  exact ⟨fun ⟨_, k, r', h, _, e⟩ => ⟨k, e ▸ h⟩, fun ⟨k, h⟩ => ⟨_, k, r, h, rfl, rfl⟩⟩

theorem reach_seq : Reach g (n + 1) (.seq a b) inp r ↔ ∃ r1, Reach g n a inp r1 ∧ Reach g n b r1 r := by
  unfold Reach
  rw [parseRx, reach_dedup (inp := inp)]
  · simp only [mem_then]
    exact ⟨fun ⟨_, k1, r1, k2, h1, h2, _⟩ => ⟨r1, ⟨k1, h1⟩, k2, h2⟩,
      fun ⟨r1, ⟨k1, h1⟩, k2, h2⟩ => ⟨_, k1, r1, k2, h1, h2, rfl⟩⟩
  · rintro ⟨k, r'⟩ h
    obtain ⟨k1, r1, k2, h1, h2, _⟩ := mem_then.mp h
    exact (Reach.suffix ⟨k2, h2⟩).trans (Reach.suffix ⟨k1, h1⟩)

theorem reach_alt : Reach g (n + 1) (.alt a b) inp r ↔ Reach g n a inp r ∨ Reach g n b inp r := by
  unfold Reach
  rw [parseRx, reach_dedup (inp := inp)]
  · simp only [List.mem_append, exists_or]
  · rintro ⟨k, r'⟩ h
    rcases List.mem_append.mp h with h | h <;> exact Reach.suffix ⟨k, h⟩

theorem reach_star : Reach g (n + 1) (.star a) inp r ↔
    (∃ r1, Reach g n a inp r1 ∧ r1.length < inp.length ∧ Reach g n (.star a) r1 r) ∨ r = inp := by
  unfold Reach
  rw [parseRx, reach_dedup (inp := inp)]
  · simp only [List.mem_append, mem_then, List.mem_filter, decide_eq_true_eq, List.mem_singleton, Prod.mk.injEq, exists_or]
    refine or_congr ⟨fun ⟨_, k1, r1, k2, ⟨h1, hl⟩, h2, _⟩ => ⟨r1, ⟨k1, h1⟩, hl, k2, h2⟩,
      fun ⟨r1, ⟨k1, h1⟩, hl, k2, h2⟩ => ⟨_, k1, r1, k2, ⟨h1, hl⟩, h2, rfl⟩⟩ (by simp)
  · rintro ⟨k, r'⟩ h
    rcases List.mem_append.mp h with h | h
    · obtain ⟨k1, r1, k2, h1, h2, _⟩ := mem_then.mp h
      exact (Reach.suffix ⟨k2, h2⟩).trans (Reach.suffix ⟨k1, (List.mem_filter.mp h1).1⟩)
    · simp only [List.mem_singleton, Prod.mk.injEq] at h; exact h.2 ▸ List.suffix_refl _

/-- a statement about every positive amount of fuel from `N + 1` on is one about all fuel from some bound on -/
theorem from_fuel {P : Nat → Prop} (N : Nat) (h : ∀ n, N ≤ n → P (n + 1)) : ∃ N, ∀ fuel, N ≤ fuel → P fuel :=
  ⟨N + 1, fun
    | 0, hf => nomatch hf
    | n + 1, hf => h n (Nat.le_of_succ_le_succ hf)⟩

/-- **Completeness of the parser (as a recogniser) for ample fuel**: whatever the grammar derives is found – for every
    continuation `r` the remainder `r` is among the results once the fuel exceeds a bound that depends only on the derivation. -/
theorem parseRx_complete (g : Grammar) {e : Rx} {w : List Token} (h : Derives g e w) :
    ∃ N, ∀ fuel, N ≤ fuel → ∀ r, Reach g fuel e (w ++ r) r := by
  induction h with
  | eps => exact from_fuel 0 fun n _ r => reach_eps.mpr rfl
  | tok x hx => exact from_fuel 0 fun n _ r => reach_tok.mpr ⟨x, hx, rfl⟩
  | ref _ ih => obtain ⟨N, hN⟩ := ih; exact from_fuel N fun n hn r => reach_ref.mpr (hN n hn r)
  | @seq a b u v _ _ ih1 ih2 =>
    obtain ⟨N1, h1⟩ := ih1
    obtain ⟨N2, h2⟩ := ih2
    exact from_fuel (max N1 N2) fun n hn r =>
      reach_seq.mpr ⟨v ++ r, by simpa using h1 n (by omega) (v ++ r), h2 n (by omega) r⟩
  | altL _ ih => obtain ⟨N, hN⟩ := ih; exact from_fuel N fun n hn r => reach_alt.mpr (.inl (hN n hn r))
  | altR _ ih => obtain ⟨N, hN⟩ := ih; exact from_fuel N fun n hn r => reach_alt.mpr (.inr (hN n hn r))
  | starNil => exact from_fuel 0 fun n _ r => reach_star.mpr (.inr rfl)
  | @starCons a u v _ _ ih1 ih2 =>
    -- an iteration that consumes nothing is skipped: the parser only follows iterations that make progress
    by_cases hu : u = []
    · subst hu; simpa using ih2
    · obtain ⟨N1, h1⟩ := ih1
      obtain ⟨N2, h2⟩ := ih2
      refine from_fuel (max N1 N2) fun n hn r => reach_star.mpr (.inl ⟨v ++ r, ?_, ?_, h2 n (by omega) r⟩)
      · simpa using h1 n (by omega) (v ++ r)
      · have := List.length_pos_iff.mpr hu; simp; omega

/-- the parser as a recogniser: some amount of fuel finds a parse of the whole input iff the grammar derives it -/
theorem parseRx_whole_iff (g : Grammar) (e : Rx) (ts : List Token) :
    (∃ fuel k, (k, []) ∈ parseRx g fuel e ts) ↔ Derives g e ts := by
  constructor
  · rintro ⟨fuel, k, h⟩
    obtain ⟨e1, hd⟩ := parseRx_sound g h
    rw [List.append_nil] at e1
    exact e1 ▸ hd
  · intro hd
    obtain ⟨N, hN⟩ := parseRx_complete g hd
    exact ⟨N, by simpa [Reach] using hN N (Nat.le_refl _) []⟩

end Gly
