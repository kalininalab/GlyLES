import GlyModel.Front.Atn
/-
  Soundness of the two executable checks on the serialized ATNs: `ruleOk` (a parser rule's sub-automaton against the grammar's
  right-hand side: partial derivatives against ε-closed state sets, a checked bisimulation) and `lexRuleOk` (a token rule's
  sub-automaton against the token table: enumeration of the accepted words along a checked rank, or `ruleOk`).
-/
namespace Gly.Atn

/-- the regular language of a right-hand side over (token types + rule references): rule references are letters -/
inductive Flat : Rx → List Sym → Prop
  | eps : Flat .eps []
  | tok (t : Nat) : Flat (.tok t) [.tok t]
  | ref (r : Nat) : Flat (.ref r) [.ref r]
  | seq {a b : Rx} {u v : List Sym} : Flat a u → Flat b v → Flat (.seq a b) (u ++ v)
  | altL {a b : Rx} {u : List Sym} : Flat a u → Flat (.alt a b) u
  | altR {a b : Rx} {u : List Sym} : Flat b u → Flat (.alt a b) u
  | starNil {a : Rx} : Flat (.star a) []
  | starCons {a : Rx} {u v : List Sym} : Flat a u → Flat (.star a) v → Flat (.star a) (u ++ v)

/-- the sub-automaton of one rule: paths through epsilon and symbol edges -/
inductive Path (n : RuleNfa) : Nat → List Sym → Nat → Prop
  | refl (q : Nat) : Path n q [] q
  | eps {q q' q'' : Nat} {w : List Sym} : (q, q') ∈ n.eps → Path n q' w q'' → Path n q w q''
  | sym {q q' q'' : Nat} {s : Sym} {w : List Sym} : (q, s, q') ∈ n.edges → Path n q' w q'' → Path n q (s :: w) q''

def FlatL (ps : List Rx) (w : List Sym) : Prop := ∃ p ∈ ps, Flat p w
def Acc (n : RuleNfa) (S : List Nat) (w : List Sym) : Prop := ∃ q ∈ S, Path n q w n.stop

/-! ### regular-expression side -/

theorem nullable_spec (r : Rx) : nullable r = true ↔ Flat r [] := by
  constructor
  · intro h
    induction r with
    | eps => exact .eps
    | tok t | ref t => cases h
    | seq a b iha ihb =>
      rw [nullable, Bool.and_eq_true] at h
      exact .seq (u := []) (iha h.1) (ihb h.2)
    | alt a b iha ihb =>
      rw [nullable, Bool.or_eq_true] at h
      exact h.elim (fun h => .altL (iha h)) (fun h => .altR (ihb h))
    | star a _ => exact .starNil
  · generalize hw : [] = w
    intro h
    induction h with
    | eps | starNil | starCons _ _ _ _ => rfl
    | tok t | ref t => cases hw
    | seq _ _ iha ihb =>
      obtain ⟨rfl, rfl⟩ := List.append_eq_nil_iff.mp hw.symm
      rw [nullable, iha rfl, ihb rfl, Bool.and_self]
    | altL _ ih => rw [nullable, ih hw, Bool.true_or]
    | altR _ ih => rw [nullable, ih hw, Bool.or_true]

theorem pd_sound (s : Sym) (r : Rx) : ∀ (p : Rx) (w : List Sym), p ∈ pd s r → Flat p w → Flat r (s :: w) := by
  intro p w hp hf
  induction r generalizing p w with
  | eps => cases hp
  | tok t | ref t =>
    rw [pd, List.mem_ite_nil_right, List.mem_singleton] at hp
    obtain ⟨rfl, rfl⟩ := hp
    cases hf
    constructor
  | seq a b iha ihb =>
    rw [pd, List.mem_append, List.mem_map, List.mem_ite_nil_right] at hp
    rcases hp with ⟨p', hp', rfl⟩ | ⟨hn, hp⟩
    · cases hf with
      | seq h1 h2 => exact .seq (iha p' _ hp' h1) h2
    · exact .seq (u := []) ((nullable_spec a).mp hn) (ihb p w hp hf)
  | alt a b iha ihb =>
    rw [pd, List.mem_append] at hp
    exact hp.elim (fun h => .altL (iha p w h hf)) (fun h => .altR (ihb p w h hf))
  | star a ih =>
    rw [pd, List.mem_map] at hp
    obtain ⟨p', hp', rfl⟩ := hp
    cases hf with
    | seq h1 h2 => exact .starCons (ih p' _ hp' h1) h2

theorem pd_complete (r : Rx) (x : List Sym) (h : Flat r x) : ∀ (s : Sym) (w : List Sym), x = s :: w → ∃ p ∈ pd s r, Flat p w := by
  intro s w hx
  induction h generalizing s w with
  | eps | starNil => cases hx
  | tok t | ref t =>
    cases hx
    exact ⟨.eps, by simp [pd], .eps⟩
  | @seq a b u v h1 h2 ih1 ih2 =>
    -- `u` is empty and the first letter is read in `v`, or it is read in `u`
    rcases List.append_eq_cons_iff.mp hx with ⟨rfl, rfl⟩ | ⟨u', rfl, rfl⟩
    · obtain ⟨p, hp, hf⟩ := ih2 s w rfl
      exact ⟨p, by simp [pd, (nullable_spec a).mpr h1, hp], hf⟩
    · obtain ⟨p, hp, hf⟩ := ih1 s u' rfl
      exact ⟨.seq p b, by simp [pd, hp], .seq hf h2⟩
  | altL _ ih | altR _ ih =>
    obtain ⟨p, hp, hf⟩ := ih s w hx
    exact ⟨p, by simp [pd, hp], hf⟩
  | @starCons a u v h1 h2 ih1 ih2 =>
    rcases List.append_eq_cons_iff.mp hx with ⟨rfl, rfl⟩ | ⟨u', rfl, rfl⟩
    · exact ih2 s w rfl
    · obtain ⟨p, hp, hf⟩ := ih1 s u' rfl
      exact ⟨.seq p (.star a), by simp [pd, hp], .seq hf h2⟩

theorem mem_dedup {α} [DecidableEq α] {x : α} {l : List α} : x ∈ dedup l ↔ x ∈ l := by
  fun_induction dedup l with
  | case1 => rfl
  | case2 a as h ih => rw [ih, List.mem_cons, or_iff_right_of_imp fun e => e ▸ h]
  | case3 a as _ ih => rw [List.mem_cons, List.mem_cons, ih]

theorem pdL_spec (s : Sym) (ps : List Rx) (w : List Sym) : FlatL (pdL s ps) w ↔ FlatL ps (s :: w) := by
  simp only [FlatL, pdL, mem_dedup, List.mem_flatMap]
  constructor
  · rintro ⟨p, ⟨r, hr, hp⟩, hf⟩
    exact ⟨r, hr, pd_sound s r p w hp hf⟩
  · rintro ⟨r, hr, hf⟩
    obtain ⟨p, hp, hf'⟩ := pd_complete r _ hf s w rfl
    exact ⟨p, ⟨r, hr, hp⟩, hf'⟩

theorem flatL_nil (ps : List Rx) : FlatL ps [] ↔ ps.any nullable = true := by
  simp only [FlatL, List.any_eq_true, nullable_spec]

/-! ### automaton side -/

theorem mem_closeStep {n : RuleNfa} {S : List Nat} {q' : Nat} : q' ∈ closeStep n S ↔ q' ∈ S ∨ ∃ q ∈ S, (q, q') ∈ n.eps := by
  simp only [closeStep, mem_dedup, List.mem_append, List.mem_filterMap, Option.ite_none_right_eq_some, Option.some.injEq,
    Prod.exists]
  exact or_congr_right ⟨fun ⟨a, b, he, ha, e⟩ => ⟨a, ha, e ▸ he⟩, fun ⟨q, hq, he⟩ => ⟨q, q', he, hq, rfl⟩⟩

theorem mem_targets {n : RuleNfa} {T : List Nat} {s : Sym} {q' : Nat} : q' ∈ targets n T s ↔ ∃ q ∈ T, (q, s, q') ∈ n.edges := by
  simp only [targets, List.mem_filterMap, Option.ite_none_right_eq_some, Option.some.injEq, Bool.and_eq_true,
    decide_eq_true_eq, Prod.exists]
  exact ⟨fun ⟨a, s', b, he, ⟨ha, es⟩, e⟩ => ⟨a, ha, es ▸ e ▸ he⟩, fun ⟨q, hq, he⟩ => ⟨q, s, q', he, ⟨hq, rfl⟩, rfl⟩⟩

/-- epsilon-closing a state set does not change what is accepted from it -/
theorem acc_closeStep (n : RuleNfa) (S : List Nat) (w : List Sym) : Acc n (closeStep n S) w ↔ Acc n S w := by
  constructor
  · rintro ⟨q', hq', hp⟩
    rcases mem_closeStep.mp hq' with h | ⟨q, hq, he⟩
    · exact ⟨q', h, hp⟩
    · exact ⟨q, hq, Path.eps he hp⟩
  · rintro ⟨q, hq, hp⟩
    exact ⟨q, mem_closeStep.mpr (Or.inl hq), hp⟩

theorem acc_closure (n : RuleNfa) (w : List Sym) (f : Nat) (S : List Nat) : Acc n (closure n f S) w ↔ Acc n S w := by
  fun_induction closure n f S with
  | case1 => rfl
  | case2 => exact acc_closeStep n _ w
  | case3 _ _ _ _ ih => rw [ih, acc_closeStep]

theorem isClosed_spec {n : RuleNfa} {T : List Nat} (h : isClosed n T = true) {a b : Nat} (he : (a, b) ∈ n.eps) (ha : a ∈ T) : b ∈ T := by
  simpa [ha] using List.all_eq_true.mp h (a, b) he

/-- where a path from a state of an epsilon-closed set `T` goes: with the empty word it ends in `T`, and a first letter is read
    on an edge from a state of `T` -/
theorem path_closed {n : RuleNfa} {T : List Nat} (hc : isClosed n T = true) {q r : Nat} {x : List Sym} :
    Path n q x r → q ∈ T →
      match x with
      | [] => r ∈ T
      | s :: w => ∃ a ∈ T, ∃ b, (a, s, b) ∈ n.edges ∧ Path n b w r := by
  intro hp hq
  induction hp with
  | refl q => exact hq
  | eps he _ ih => exact ih (isClosed_spec hc he hq)
  | sym he hp' _ => exact ⟨_, hq, _, he, hp'⟩

theorem acc_nil {n : RuleNfa} {T : List Nat} (hc : isClosed n T = true) : Acc n T [] ↔ n.stop ∈ T :=
  ⟨fun ⟨_, hq, hp⟩ => path_closed hc hp hq, fun h => ⟨n.stop, h, Path.refl _⟩⟩

theorem step_spec (n : RuleNfa) (cf : Nat) (T : List Nat) (s : Sym) (w : List Sym) (hc : isClosed n T = true) :
    Acc n (stepSet n cf T s) w ↔ Acc n T (s :: w) := by
  rw [stepSet, acc_closure]
  constructor
  · rintro ⟨q', hq', hp⟩
    obtain ⟨q, hq, he⟩ := mem_targets.mp hq'
    exact ⟨q, hq, Path.sym he hp⟩
  · rintro ⟨q, hq, hp⟩
    obtain ⟨a, ha, b, he, hp'⟩ := path_closed hc hp hq
    exact ⟨b, mem_targets.mpr ⟨a, ha, he⟩, hp'⟩

/-! ### the checked bisimulation -/

theorem sameSet_spec {α} [DecidableEq α] {a b : List α} (h : sameSet a b = true) : ∀ x, x ∈ a ↔ x ∈ b := by
  simp only [sameSet, Bool.and_eq_true, List.all_eq_true, decide_eq_true_eq] at h
  exact fun x => ⟨h.1 x, h.2 x⟩

/-- a pair found in `R` up to `sameSet` stands for the same two languages as the member of `R` it was found as -/
theorem pairIn_spec (n : RuleNfa) {p : Pair} {R : List Pair} (h : pairIn p R = true) :
    ∃ q ∈ R, (∀ w, FlatL p.1 w ↔ FlatL q.1 w) ∧ (∀ w, Acc n p.2 w ↔ Acc n q.2 w) := by
  simp only [pairIn, List.any_eq_true, Bool.and_eq_true] at h
  obtain ⟨q, hq, h1, h2⟩ := h
  exact ⟨q, hq, fun w => exists_congr fun x => and_congr_left' (sameSet_spec h1 x),
    fun w => exists_congr fun x => and_congr_left' (sameSet_spec h2 x)⟩

/-- a checked `R` relates equal languages: induction on the word, one letter being `pdL_spec` on the left and `step_spec` on the
    right, the empty word `flatL_nil` and `acc_nil` -/
theorem isBisim_sound (n : RuleNfa) (al : List Sym) (cf : Nat) (R : List Pair) (h : isBisim n al cf R = true) :
    ∀ (w : List Sym), (∀ s ∈ w, s ∈ al) → ∀ q ∈ R, (FlatL q.1 w ↔ Acc n q.2 w) := by
  simp only [isBisim, List.all_eq_true, Bool.and_eq_true, beq_iff_eq] at h
  intro w
  induction w with
  | nil =>
    intro _ q hq
    rw [flatL_nil, acc_nil (h q hq).1.1, (h q hq).1.2, decide_eq_true_iff]
  | cons s w ih =>
    intro hal q hq
    obtain ⟨hs, hal⟩ := List.forall_mem_cons.mp hal
    obtain ⟨q', hq'R, hF, hA⟩ := pairIn_spec n ((h q hq).2 s hs)
    rw [← pdL_spec, hF, ih hal q' hq'R, ← hA, step_spec n cf q.2 s w (h q hq).1.1]

/-- **Soundness of `ruleOk`**: the rule's sub-automaton in the serialized ATN and the rule's right-hand side in the grammar
    accept the same words over their joint alphabet of token types and rule references. -/
theorem ruleOk_sound (n : RuleNfa) (r : Rx) (h : ruleOk n r = true) :
    ∀ w : List Sym, (∀ s ∈ w, s ∈ alphabetOf n r) → (Flat r w ↔ Path n n.start w n.stop) := by
  simp only [ruleOk, Bool.and_eq_true] at h
  intro w hw
  obtain ⟨q, hqR, hF, hA⟩ := pairIn_spec n h.2
  have := isBisim_sound n _ _ _ h.1 w hw q hqR
  rw [← hF, ← hA, acc_closure] at this
  simpa [FlatL, Acc] using this

theorem flat_syms {e : Rx} {σ : List Sym} (h : Flat e σ) : σ ⊆ symsOf e := by
  induction h with
  | eps | starNil => exact List.nil_subset _
  | tok t | ref t => exact List.Subset.refl _
  | seq _ _ iha ihb =>
    exact List.append_subset.mpr ⟨List.subset_append_of_subset_left _ iha, List.subset_append_of_subset_right _ ihb⟩
  | altL _ ih => exact List.subset_append_of_subset_left _ ih
  | altR _ ih => exact List.subset_append_of_subset_right _ ih
  | starCons _ _ iha ihb => exact List.append_subset.mpr ⟨iha, ihb⟩

theorem path_syms {n : RuleNfa} {q r : Nat} {σ : List Sym} (h : Path n q σ r) : σ ⊆ n.edges.map (·.2.1) := by
  induction h with
  | refl q => exact List.nil_subset _
  | eps _ _ ih => exact ih
  | sym he _ ih => exact List.cons_subset.mpr ⟨List.mem_map.mpr ⟨_, he, rfl⟩, ih⟩

/-- `ruleOk_sound` without its side condition: a word of either language is a word over the joint alphabet -/
theorem ruleOk_iff {n : RuleNfa} {e : Rx} (h : ruleOk n e = true) (σ : List Sym) : Flat e σ ↔ Path n n.start σ n.stop :=
  ⟨fun hf => (ruleOk_sound n e h σ fun _ hs => mem_dedup.mpr (List.mem_append_left _ (flat_syms hf hs))).mp hf,
    fun hp => (ruleOk_sound n e h σ fun _ hs => mem_dedup.mpr (List.mem_append_right _ (path_syms hp hs))).mpr hp⟩

/-! ### token rules: enumeration along a checked rank -/

theorem mem_wordsFrom_succ {n : RuleNfa} {f q : Nat} {w : List Sym} :
    w ∈ wordsFrom n (f + 1) q ↔
      (q = n.stop ∧ w = []) ∨ (∃ q', (q, q') ∈ n.eps ∧ w ∈ wordsFrom n f q') ∨
      ∃ s q' w', (q, s, q') ∈ n.edges ∧ w' ∈ wordsFrom n f q' ∧ w = s :: w' := by
  simp only [wordsFrom, List.mem_append, List.mem_flatMap, List.mem_filter, List.mem_map, beq_iff_eq, Prod.exists,
    List.mem_ite_nil_right, List.mem_singleton, or_assoc]
  refine or_congr_right (or_congr ?_ ?_)
  · exact ⟨fun ⟨a, b, ⟨he, e⟩, hw⟩ => ⟨b, e ▸ he, hw⟩, fun ⟨q', he, hw⟩ => ⟨q, q', ⟨he, rfl⟩, hw⟩⟩
  · exact ⟨fun ⟨a, s, b, ⟨he, e⟩, w', hw', ew⟩ => ⟨s, b, w', e ▸ he, hw', ew.symm⟩,
      fun ⟨s, q', w', he, hw', ew⟩ => ⟨q, s, q', ⟨he, rfl⟩, w', hw', ew.symm⟩⟩

theorem wordsFrom_sound (n : RuleNfa) : ∀ (f q : Nat) (w : List Sym), w ∈ wordsFrom n f q → Path n q w n.stop := by
  intro f q w h
  induction f generalizing q w with
  | zero => cases h
  | succ f ih =>
    rcases mem_wordsFrom_succ.mp h with ⟨rfl, rfl⟩ | ⟨q', he, hw⟩ | ⟨s, q', w', he, hw', rfl⟩
    · exact Path.refl _
    · exact Path.eps he (ih q' w hw)
    · exact Path.sym he (ih q' w' hw')

theorem rankOk_spec {n : RuleNfa} {rk : List (Nat × Nat)} (h : rankOk n rk = true) :
    (∀ a b, (a, b) ∈ n.eps → rankOf rk b < rankOf rk a) ∧ (∀ a s b, (a, s, b) ∈ n.edges → rankOf rk b < rankOf rk a) := by
  simp only [rankOk, Bool.and_eq_true, List.all_eq_true, decide_eq_true_eq] at h
  exact ⟨fun a b he => h.1 (a, b) he, fun a s b he => h.2 (a, s, b) he⟩

/-- the rank of a state bounds the length of the paths from it, so fuel above the rank enumerates them all -/
theorem wordsFrom_complete {n : RuleNfa} {rk : List (Nat × Nat)} (h : rankOk n rk = true) {f q : Nat} {w : List Sym}
    (hp : Path n q w n.stop) (hf : rankOf rk q < f) : w ∈ wordsFrom n f q := by
  obtain ⟨h1, h2⟩ := rankOk_spec h
  induction f generalizing q w with
  | zero => cases hf
  | succ f ih =>
    rw [mem_wordsFrom_succ]
    cases hp with
    | refl => exact .inl ⟨rfl, rfl⟩
    | eps he hp' => exact .inr (.inl ⟨_, he, ih hp' (by have := h1 _ _ he; omega)⟩)
    | sym he hp' => exact .inr (.inr ⟨_, _, _, he, ih hp' (by have := h2 _ _ _ he; omega), rfl⟩)

theorem usesUp_spec : ∀ (a rem : List (List Sym)), usesUp a rem = true → ∀ x, x ∈ a ↔ x ∈ rem := by
  intro a rem h x
  fun_induction usesUp a rem with
  | case1 rem => rw [List.isEmpty_iff.mp h]
  | case2 w ws rem hw ih => rw [(List.perm_cons_erase hw).mem_iff, List.mem_cons, List.mem_cons, ih h]
  | case3 => cases h

/-- **Soundness of `lexRuleOk`**: a token rule of the lexer ATN and the rule of the token table (regenerated from `Glycan.g4`)
    accept the same character strings – for rules that are lists of literals, exactly those literals; for rules with character
    ranges or a star (`NUM`), the same words over the joint alphabet. -/
theorem lexRuleOk_sound (l : LexNfa) (r : LexRule) (h : lexRuleOk l r = true) :
    l.ty = r.ty ∧
    (∀ lits, literalsOf r = some lits → ∀ w, Path l.nfa l.nfa.start w l.nfa.stop ↔ w ∈ lits) ∧
    (literalsOf r = none → ∀ w, (∀ s ∈ w, s ∈ alphabetOf l.nfa (rxOfRule r)) →
      (Flat (rxOfRule r) w ↔ Path l.nfa l.nfa.start w l.nfa.stop)) := by
  simp only [lexRuleOk, Bool.and_eq_true, beq_iff_eq] at h
  obtain ⟨hty, hrest⟩ := h
  refine ⟨hty, ?_, ?_⟩
  · intro lits hl w
    simp only [hl, Bool.and_eq_true] at hrest
    rw [← usesUp_spec _ _ hrest.2 w]
    exact ⟨fun hp => wordsFrom_complete hrest.1 hp (Nat.lt_succ_self _), wordsFrom_sound l.nfa _ _ w⟩
  · intro hl
    simp only [hl] at hrest
    exact ruleOk_sound l.nfa (rxOfRule r) hrest

end Gly.Atn
