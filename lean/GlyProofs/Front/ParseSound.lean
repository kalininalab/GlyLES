import GlyModel.Front.Parser
namespace Gly

/-- Declarative meaning of the grammar: which token strings an expression derives. -/
inductive Derives (g : Grammar) : Rx → List Token → Prop
  | eps : Derives g .eps []
  | tok {t : TokType} (x : Token) : x.ty = t → Derives g (.tok t) [x]
  | ref {r : Nat} {w : List Token} : Derives g (g.rule r) w → Derives g (.ref r) w
  | seq {a b : Rx} {u v : List Token} : Derives g a u → Derives g b v → Derives g (.seq a b) (u ++ v)
  | altL {a b : Rx} {w : List Token} : Derives g a w → Derives g (.alt a b) w
  | altR {a b : Rx} {w : List Token} : Derives g b w → Derives g (.alt a b) w
  | starNil {a : Rx} : Derives g (.star a) []
  | starCons {a : Rx} {u v : List Token} : Derives g a u → Derives g (.star a) v → Derives g (.star a) (u ++ v)

mutual
/-- Tokens at the leaves of a parse tree, left to right. -/
def PT.yield : PT → List Token
  | .leaf t => [t]
  | .node _ ks => PT.yieldList ks
def PT.yieldList : List PT → List Token
  | [] => []
  | k :: ks => PT.yield k ++ PT.yieldList ks
end

theorem PT.yieldList_append (a b : List PT) : PT.yieldList (a ++ b) = PT.yieldList a ++ PT.yieldList b := by
  induction a with
  | nil => rfl
  | cons x xs ih => rw [List.cons_append, PT.yieldList, PT.yieldList, ih, List.append_assoc]

theorem PT.yieldList_singleton (t : PT) : PT.yieldList [t] = PT.yield t := List.append_nil _

theorem dedupGo_sublist (xs : PRes) (seen : List Nat) : (dedupGo xs seen).Sublist xs := by
  fun_induction dedupGo xs seen with
  | case1 => exact .slnil
  | case2 _ _ _ _ _ ih => exact ih.cons _
  | case3 _ _ _ _ _ ih => exact ih.cons_cons _

theorem mem_of_mem_dedup {xs : PRes} {x : List PT × List Token} : x ∈ dedup xs → x ∈ xs :=
  fun h => (dedupGo_sublist xs []).subset h

/-- the results of "first `xs`, then `f` on what is left" -/
theorem mem_then {xs : PRes} {f : List Token → PRes} {k : List PT} {r : List Token} :
    (k, r) ∈ xs.flatMap (fun (k1, r1) => (f r1).map (fun (k2, r2) => (k1 ++ k2, r2))) ↔
      ∃ k1 r1 k2, (k1, r1) ∈ xs ∧ (k2, r) ∈ f r1 ∧ k = k1 ++ k2 := by
  simp only [List.mem_flatMap, List.mem_map, Prod.exists, Prod.mk.injEq]
  constructor
  · rintro ⟨k1, r1, h1, k2, r2, h2, rfl, rfl⟩; exact ⟨k1, r1, k2, h1, h2, rfl⟩
  · rintro ⟨k1, r1, k2, h1, h2, rfl⟩; exact ⟨k1, r1, h1, k2, r, h2, rfl, rfl⟩

/-- Soundness of the parser with respect to the grammar, and the yield law: every result consumed a
    prefix `w` of the input which the expression derives, and the trees' leaves are exactly `w`. -/
theorem parseRx_sound (g : Grammar) {fuel : Nat} {e : Rx} {inp : List Token} {k : List PT} {r : List Token}
    (h : (k, r) ∈ parseRx g fuel e inp) : inp = PT.yieldList k ++ r ∧ Derives g e (PT.yieldList k) := by
  induction fuel generalizing e inp k r with
  | zero => cases h
  | succ n ih =>
    cases e with
    | eps =>
      cases List.mem_singleton.mp h
      exact ⟨rfl, .eps⟩
    | tok t =>
      cases inp with
      | nil => cases h
      | cons x xs =>
        rw [parseRx, List.mem_ite_nil_right, List.mem_singleton] at h
        cases h.2
        exact ⟨rfl, .tok x h.1⟩
    | ref rr =>
      obtain ⟨⟨k', r'⟩, hm, heq⟩ := List.mem_map.mp h
      cases heq
      rw [PT.yieldList_singleton]
      exact ⟨(ih hm).1, .ref (ih hm).2⟩
    | seq a b =>
      obtain ⟨k1, r1, k2, h1, h2, rfl⟩ := mem_then.mp (mem_of_mem_dedup h)
      have e1 := ih h1
      have e2 := ih h2
      rw [PT.yieldList_append, List.append_assoc, ← e2.1]
      exact ⟨e1.1, .seq e1.2 e2.2⟩
    | alt a b =>
      rcases List.mem_append.mp (mem_of_mem_dedup h) with h | h
      · exact ⟨(ih h).1, .altL (ih h).2⟩
      · exact ⟨(ih h).1, .altR (ih h).2⟩
    | star a =>
      rcases List.mem_append.mp (mem_of_mem_dedup h) with h | h
      · obtain ⟨k1, r1, k2, h1, h2, rfl⟩ := mem_then.mp h
        have e1 := ih (List.mem_filter.mp h1).1
        have e2 := ih h2
        rw [PT.yieldList_append, List.append_assoc, ← e2.1]
        exact ⟨e1.1, .starCons e1.2 e2.2⟩
      · cases List.mem_singleton.mp h
        exact ⟨rfl, .starNil⟩

theorem firstParse_sound {g : Grammar} {ts : List Token} {t : PT} {rest : List Token}
    (h : firstParse g ts = some (t, rest)) :
    ts = PT.yield t ++ rest ∧ Derives g (.ref 0) (PT.yield t) := by
  unfold firstParse at h
  split at h
  · rename_i k r tl heq
    cases h
    have := parseRx_sound g (heq ▸ List.mem_cons_self)
    rwa [PT.yieldList_singleton] at this
  · cases h

end Gly
