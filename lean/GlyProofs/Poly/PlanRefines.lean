import GlyProofs.Front.Forest
/-
  The Model of `Merger.mark` / `Merger.merge_int` (recursion over the edge list of the walked tree) refines the structural
  Spec over the written forest, for every forest and every traversal instance.
-/
namespace Gly.Plan

variable {α : Type}

/-- the nodes and edges parts of `flattenOnto_eq` -/
theorem flatten_edges (w : WalkCfg) (F : GF) : ∀ (p : Nat) (st : WState), p < st.nodes.length →
    (flattenOnto w F p st).nodes = st.nodes ++ preNames F ∧
    (flattenOnto w F p st).edges = st.edges ++ edgesGF w F p st.nodes.length := by
  intro p st hp
  rw [flattenOnto_eq w F p st hp]
  exact ⟨rfl, rfl⟩

/-! ### where the edges of a forest point -/

/-- no edge of a forest leaves a node that is neither the one it hangs on nor one of its own -/
theorem filter_outside (w : WalkCfg) (F : GF) (p n x : Nat) (hp : x ≠ p) (hx : x < n ∨ n + F.size ≤ x) :
    (edgesGF w F p n).filter (fun e => e.1 == x) = [] := by
  rw [List.filter_eq_nil_iff]
  intro e he
  have := (edges_range w F p n e he).1
  simp; omega

/-- no edge of a forest enters a node that is not one of its own -/
theorem find_outside (w : WalkCfg) (F : GF) (p n x : Nat) (hx : x < n ∨ n + F.size ≤ x) :
    (edgesGF w F p n).find? (fun e => e.2.1 == x) = none := by
  rw [List.find?_eq_none]
  intro e he
  have := (edges_range w F p n e he).2
  simp; omega

/-- the edges of a forest that leave the node it hangs on are its top-level edges -/
theorem filter_parent (w : WalkCfg) (F : GF) : ∀ (p n : Nat), p < n →
    (edgesGF w F p n).filter (fun e => e.1 == p) = rootEdges w F p n := by
  induction F with
  | nil => intro p n _; simp [edgesGF, rootEdges]
  | cons l nm kids rest _ ihr =>
    intro p n hpn
    simp [edgesGF, rootEdges, ihr p _ (show p < n + 1 + kids.size by omega),
      filter_outside w kids n (n + 1) p (by omega) (Or.inl (by omega))]

/-- inside the first tree of a forest only that tree's own edges leave a node -/
theorem filter_in_kids (w : WalkCfg) (l : ConStr) (nm : Recipe) (kids rest : GF) (p n x : Nat) (hpn : p < n)
    (hx : n ≤ x) (hx' : x < n + 1 + kids.size) :
    (edgesGF w (.cons l nm kids rest) p n).filter (fun e => e.1 == x) =
      (edgesGF w kids n (n + 1)).filter (fun e => e.1 == x) := by
  have h1 : (p == x) = false := by simp; omega
  simp [edgesGF, h1, filter_outside w rest p (n + 1 + kids.size) x (by omega) (Or.inl hx')]

theorem filter_in_rest (w : WalkCfg) (l : ConStr) (nm : Recipe) (kids rest : GF) (p n x : Nat) (hpn : p < n)
    (hx : n + 1 + kids.size ≤ x) :
    (edgesGF w (.cons l nm kids rest) p n).filter (fun e => e.1 == x) =
      (edgesGF w rest p (n + 1 + kids.size)).filter (fun e => e.1 == x) := by
  have h1 : (p == x) = false := by simp; omega
  simp [edgesGF, h1, filter_outside w kids n (n + 1) x (by omega) (Or.inr (by omega))]

theorem rootEdges_length (w : WalkCfg) (F : GF) : ∀ p n, (rootEdges w F p n).length = F.width := by
  induction F with
  | nil => intro p n; rfl
  | cons l nm kids rest _ ihr => intro p n; simp [rootEdges, GF.width, ihr]; omega

/-- the Spec written as the recursion it abbreviates -/
def specRec (T : Trav α) (w : WalkCfg) : GF → Nat → Nat → Nat → α → Option (List Call)
  | .nil, _, _, _, _ => some []
  | .cons l nm kids rest, p, n, k, a =>
    (T.edge p n (normLabel w nm l) k a).bind fun e =>
    ((specRec T w kids n (n + 1) 0 (T.down p a)).map (T.pre n (normLabel w nm l) (T.down p a) ++ ·)).bind fun sub =>
    (specRec T w rest p (n + 1 + kids.size) (k + 1) a).bind fun more =>
    some (e ++ sub ++ more)

theorem traverse_append {β γ : Type} (f : β → Option γ) (xs ys : List β) :
    traverse f (xs ++ ys) = (traverse f xs).bind fun a => (traverse f ys).bind fun b => some (a ++ b) := by
  induction xs with
  | nil => simp [traverse]
  | cons x xs ih => simp [traverse, ih, Option.bind_assoc]

theorem specRec_eq_specPlan (T : Trav α) (w : WalkCfg) (F : GF) : ∀ (p n k : Nat) (a : α),
    specRec T w F p n k a = specPlan T w F p n k a := by
  induction F with
  | nil => intro p n k a; rfl
  | cons l nm kids rest ihk ihr =>
    intro p n k a
    -- both sides chain the same three options; `bind` and `map` are normalised by associativity
    simp [specRec, ihk, ihr, specPlan, linkages, traverse, traverse_append, perLinkage, Option.bind_assoc, Option.map_eq_bind]

/-- one call of `go` on a node whose out-edges are the top-level edges of a forest of admissible width -/
theorem go_step {T : Trav α} {w : WalkCfg} {E : List Edge} {m : Nat} (hs : m ≤ T.slots) (hl : ∀ l, T.limit = some l → m ≤ l)
    {F : GF} (hw0 : F.width ≤ m) {x n : Nat} (hx : E.filter (fun e => e.1 == x) = rootEdges w F x n)
    (f : Nat) (pe : List Char) (a : α) :
    go T E (f + 1) x pe a = (kidsLoop T (go T E f) x a (rootEdges w F x n) 0).map (T.pre x pe a ++ ·) := by
  have hlen : (rootEdges w F x n).length ≤ m := by rw [rootEdges_length]; exact hw0
  have hlim : overLimit T.limit (rootEdges w F x n).length = false := by
    cases hlm : T.limit with
    | none => rfl
    | some lim => have := hl lim hlm; simp [overLimit]; omega
  simp only [go, hx, hlim, List.take_of_length_le (Nat.le_trans hlen hs)]
  cases F <;> simp [rootEdges, kidsLoop]

/-- **The loop over the children of `p` refines the Spec**, for every global edge list `E` that agrees with the forest's own
    edges on the forest's nodes. The fuel `f` of the recursive calls bounds the number of residues still below: one unit per
    descent into a child. -/
theorem kidsLoop_refines (T : Trav α) (w : WalkCfg) (E : List Edge) (m : Nat)
    (hs : m ≤ T.slots) (hl : ∀ l, T.limit = some l → m ≤ l) (F : GF) :
    ∀ (f p n k : Nat) (a : α), p < n → F.size ≤ f → F.widthOK m = true →
      (∀ x, n ≤ x → x < n + F.size → E.filter (fun e => e.1 == x) = (edgesGF w F p n).filter (fun e => e.1 == x)) →
      kidsLoop T (go T E f) p a (rootEdges w F p n) k = specRec T w F p n k a := by
  induction F with
  | nil => intro f p n k a _ _ _ _; simp [rootEdges, kidsLoop, specRec]
  | cons l nm kids rest ihk ihr =>
    intro f p n k a hpn hf hw hE
    simp only [GF.size] at hf hE
    simp only [GF.widthOK, Bool.and_eq_true, decide_eq_true_eq] at hw
    obtain ⟨⟨hwk, hwk'⟩, hwr⟩ := hw
    obtain ⟨f', rfl⟩ : ∃ f', f = f' + 1 := ⟨f - 1, by omega⟩
    have hin : ∀ x, n ≤ x → x < n + 1 + kids.size →
        E.filter (fun e => e.1 == x) = (edgesGF w kids n (n + 1)).filter (fun e => e.1 == x) := fun x hx hx' => by
      rw [hE x (by omega) (by omega), filter_in_kids w l nm kids rest p n x hpn hx hx']
    have hre : ∀ x, n + 1 + kids.size ≤ x → x < n + 1 + kids.size + rest.size →
        E.filter (fun e => e.1 == x) = (edgesGF w rest p (n + 1 + kids.size)).filter (fun e => e.1 == x) := fun x hx hx' => by
      rw [hE x (by omega) (by omega), filter_in_rest w l nm kids rest p n x hpn hx]
    have hroot : E.filter (fun e => e.1 == n) = rootEdges w kids n (n + 1) := by
      rw [hin n (by omega) (by omega), filter_parent w kids n (n + 1) (by omega)]
    -- one round of the loop: `go_step` for the call on the first tree's root, then the loop over the siblings
    rw [rootEdges, kidsLoop, specRec, go_step hs hl hwk hroot,
      ihk f' n (n + 1) 0 (T.down p a) (by omega) (by omega) hwk' fun x hx hx' => hin x (by omega) hx',
      ihr (f' + 1) p (n + 1 + kids.size) (k + 1) a (by omega) (by omega) hwr hre]

/-- **Whole glycan**: on the edges of a root residue (node 0) with the forest `F` written to its left, the Model of `Merger.mark` /
    `merge_int`, started at node 0, issues exactly the Spec's calls – when no residue has more than `m` children (`m` at most the
    number of marker pairs and the branching limit). -/
theorem go_edgesGF (T : Trav α) (w : WalkCfg) (F : GF) (m : Nat) (hs : m ≤ T.slots) (hl : ∀ l, T.limit = some l → m ≤ l)
    (hw0 : F.width ≤ m) (hw : F.widthOK m = true) (f : Nat) (hf : F.size < f) (pe : List Char) (a : α) :
    go T (edgesGF w F 0 1) f 0 pe a = specWhole T w F pe a := by
  obtain ⟨f', rfl⟩ : ∃ f', f = f' + 1 := ⟨f - 1, by omega⟩
  rw [go_step hs hl hw0 (filter_parent w F 0 1 (by omega)),
    kidsLoop_refines T w _ m hs hl F f' 0 1 0 a (by omega) (by omega) hw (fun _ _ _ => rfl), specWhole, specRec_eq_specPlan]

/-- `go_edgesGF` on the edges of the state the walker leaves behind -/
theorem go_refines (T : Trav α) (w : WalkCfg) (F : GF) (st : WState) (hst : st.nodes.length = 1) (hse : st.edges = [])
    (m : Nat) (hs : m ≤ T.slots) (hl : ∀ l, T.limit = some l → m ≤ l) (hw0 : F.width ≤ m) (hw : F.widthOK m = true)
    (f : Nat) (hf : F.size < f) (pe : List Char) (a : α) :
    go T (flattenOnto w F 0 st).edges f 0 pe a = specWhole T w F pe a := by
  rw [flattenOnto_eq w F 0 st (by omega), hse, hst, List.nil_append]
  exact go_edgesGF T w F m hs hl hw0 hw f hf pe a

end Gly.Plan
