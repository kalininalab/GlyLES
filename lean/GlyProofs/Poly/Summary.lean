import GlyProofs.Poly.PlanRefines
/-
  The structural entries of `Glycan.summary()` on the edges of the walked tree.
  `leaves`: the nodes without outgoing edge are exactly the residues written with nothing attached to them.
  `depth`: following the parent edges from a node up to node 0 counts the node's nesting depth in the written forest, so the largest
  such count is the forest's height.
-/
namespace Gly.Plan

/-! ### `summary()["leaves"]` -/

/-- a node whose out-edges are the top-level edges of a forest is a leaf iff the forest is empty -/
theorem outLeaves_root {w : WalkCfg} {F : GF} {es : List Edge} {x n : Nat} :
    es.filter (fun e => e.1 == x) = rootEdges w F x n → outLeaves es [x] = match F with | .nil => [x] | _ => [] := by
  intro h
  cases F <;> simp [outLeaves, h, rootEdges]

theorem outLeaves_congr {es es' : List Edge} {ids : List Nat}
    (h : ∀ x ∈ ids, es.filter (fun e => e.1 == x) = es'.filter (fun e => e.1 == x)) : outLeaves es ids = outLeaves es' ids :=
  List.filter_congr fun x hx => by rw [h x hx]

theorem outLeaves_append (es : List Edge) (a b : List Nat) : outLeaves es (a ++ b) = outLeaves es a ++ outLeaves es b := by
  simp [outLeaves]

/-- **The out-degree-0 nodes among the new ids are the written leaves.** -/
theorem outLeaves_spec (w : WalkCfg) (F : GF) : ∀ (p n : Nat), p < n →
    outLeaves (edgesGF w F p n) (List.range' n F.size) = leafIds F n := by
  induction F with
  | nil => intro p n _; simp [outLeaves, leafIds, GF.size]
  | cons l nm kids rest ihk ihr =>
    intro p n hpn
    rw [range'_size_cons, ← List.singleton_append, ← List.append_assoc, outLeaves_append, outLeaves_append]
    simp only [leafIds]
    congr 1
    congr 1
    · -- the root of the first tree
      apply outLeaves_root
      rw [filter_in_kids w l nm kids rest p n n hpn (by omega) (by omega), filter_parent w kids n (n + 1) (by omega)]
    · refine (outLeaves_congr fun x hx => ?_).trans (ihk n (n + 1) (by omega))
      have := List.mem_range'_1.mp hx
      exact filter_in_kids w l nm kids rest p n x hpn (by omega) (by omega)
    · refine (outLeaves_congr fun x hx => ?_).trans (ihr p (n + 1 + kids.size) (by omega))
      have := List.mem_range'_1.mp hx
      exact filter_in_rest w l nm kids rest p n x hpn (by omega)

/-! ### `summary()["depth"]` -/

/-- the parent of a node of a forest is looked up in the part of the forest the node lies in -/
theorem parentOf_cons (w : WalkCfg) (l : ConStr) (nm : Recipe) (kids rest : GF) (p n x : Nat) :
    parentOf (edgesGF w (.cons l nm kids rest) p n) x =
      if x = n then some p
      else if x < n + 1 + kids.size then parentOf (edgesGF w kids n (n + 1)) x
      else parentOf (edgesGF w rest p (n + 1 + kids.size)) x := by
  by_cases hn : x = n
  · simp [parentOf, edgesGF, hn]
  · have hne : (n == x) = false := by simp; omega
    simp only [parentOf, edgesGF, List.find?_cons, hne, List.find?_append, if_neg hn]
    split
    · rw [find_outside w rest p _ x (Or.inl ‹_›), Option.or_none]
    · rw [find_outside w kids n _ x (Or.inr (by omega)), Option.none_or]

/-- **levels**: in any edge list `E` that looks up the parents of the forest's nodes like the forest's own edges do, a node of the
    forest hung at depth `d` on a node `q` of level `d - 1` (second hypothesis: for every fuel that suffices) has the level the
    Spec says -/
theorem levelOf_spec (w : WalkCfg) (E : List Edge) (F : GF) : ∀ (q n d f : Nat), 0 < d →
    (∀ f', d ≤ f' + 1 → levelOf E f' q = d - 1) →
    (∀ x, n ≤ x → x < n + F.size → parentOf E x = parentOf (edgesGF w F q n) x) →
    ∀ xd ∈ levelIds F n d, xd.2 ≤ f → levelOf E f xd.1 = xd.2 := by
  induction F with
  | nil => intro q n d f _ _ _ xd h; simp [levelIds] at h
  | cons l nm kids rest ihk ihr =>
    intro q n d f hd hq hE xd hmem hf
    simp only [GF.size] at hE
    simp only [levelIds, List.mem_cons, List.mem_append] at hmem
    -- the level of the first tree's root, for every sufficient fuel
    have hroot : ∀ f', d ≤ f' → levelOf E f' n = d := by
      intro f' hf'
      obtain ⟨g, rfl⟩ : ∃ g, f' = g + 1 := ⟨f' - 1, by omega⟩
      simp only [levelOf, hE n (by omega) (by omega), parentOf_cons, ↓reduceIte]
      rw [hq g (by omega)]; omega
    rcases hmem with rfl | hk | hr
    · exact hroot f hf
    · refine ihk n (n + 1) (d + 1) f (by omega) (fun f' hf' => hroot f' (by omega)) ?_ xd hk hf
      intro x hx hx'
      rw [hE x (by omega) (by omega), parentOf_cons, if_neg (by omega), if_pos (by omega)]
    · refine ihr q (n + 1 + kids.size) d f hd hq ?_ xd hr hf
      intro x hx hx'
      rw [hE x (by omega) (by omega), parentOf_cons, if_neg (by omega), if_neg (by omega)]

theorem maxList_append (a b : List Nat) : maxList (a ++ b) = max (maxList a) (maxList b) := by
  induction a with
  | nil => simp [maxList]
  | cons x xs ih => simp [maxList, ih, Nat.max_assoc]

theorem levelIds_fst (F : GF) : ∀ (n d : Nat), (levelIds F n d).map (·.1) = List.range' n F.size := by
  induction F with
  | nil => intro n d; rfl
  | cons l nm kids rest ihk ihr => intro n d; simp [levelIds, ihk, ihr, range'_size_cons]

theorem levelIds_lt (F : GF) : ∀ (n d : Nat) (xd : Nat × Nat), xd ∈ levelIds F n d → xd.2 < d + F.size := by
  induction F with
  | nil => intro n d xd h; simp [levelIds] at h
  | cons l nm kids rest ihk ihr =>
    intro n d xd h
    simp only [levelIds, List.mem_cons, List.mem_append] at h
    simp only [GF.size]
    rcases h with rfl | h | h
    · simp; omega
    · have := ihk _ _ xd h; omega
    · have := ihr _ _ xd h; omega

/-- a node of level `e` and a forest hung on it: the largest level is `e` plus the forest's height -/
theorem maxLevel (F : GF) : ∀ (n e : Nat), max e (maxList ((levelIds F n (e + 1)).map (·.2))) = e + heightGF F := by
  induction F with
  | nil => intro n e; simp [levelIds, maxList, heightGF]
  | cons l nm kids rest ihk ihr =>
    intro n e
    simp only [levelIds, List.map_cons, List.map_append, maxList, maxList_append, heightGF]
    -- grouped as the two induction hypotheses speak: the first tree with its root's level, the siblings with `e`
    rw [← Nat.max_assoc (e + 1), Nat.max_left_comm e, ihk (n + 1) (e + 1), ihr (n + 1 + kids.size) e]
    omega

theorem map_congr_mem {β : Type} (l : List Nat) (f g : Nat → β) (h : ∀ x ∈ l, f x = g x) : l.map f = l.map g :=
  List.map_congr_left h

/-- **`summary()["depth"]`**: on the edges the walker produces for a root residue with the forest `F` written to its left, the
    largest level of a node is the height of `F`. -/
theorem depth_spec (w : WalkCfg) (F : GF) : depthOf (edgesGF w F 0 1) (1 + F.size) = heightGF F := by
  have hroot : ∀ f', levelOf (edgesGF w F 0 1) f' 0 = 0 := by
    intro f'
    cases f' with
    | zero => rfl
    | succ g => simp [levelOf, parentOf, find_outside w F 0 1 0 (Or.inl (by omega))]
  have hlev : (List.range' 1 F.size).map (levelOf (edgesGF w F 0 1) (F.size + 1)) = (levelIds F 1 1).map (·.2) := by
    rw [← levelIds_fst F 1 1, List.map_map]
    exact List.map_congr_left fun xd hxd =>
      levelOf_spec w _ F 0 1 1 (F.size + 1) (by omega) (fun f' _ => hroot f') (fun _ _ _ => rfl) xd hxd
        (by have := levelIds_lt F 1 1 xd hxd; omega)
  rw [depthOf, Nat.add_comm, List.range_eq_range', List.range'_succ, List.map_cons, maxList, hroot, hlev, maxLevel F 1 0,
    Nat.zero_add]

end Gly.Plan
