import GlyProofs.Poly.PlanRefines
/-
  The marker slots the plan hands to the children of one residue are 0, 1, 2, … in written sibling order – pairwise different:
  the hypothesis `nodupB (markersOf kids)` of the whole-tree assembly theorem is what the plan produces.
-/
namespace Gly.Plan

variable {α : Type}

abbrev Lk (α : Type) := Nat × Nat × List Char × Nat × α

def Lk.slot (l : Lk α) : Nat := l.2.2.2.1

/-- the linkages, forgetting slot and inherited value, are the walker's edges -/
theorem linkages_edges (down : Nat → α → α) (w : WalkCfg) (F : GF) : ∀ (p n k : Nat) (a : α),
    (linkages down w F p n k a).map (fun l => (l.1, l.2.1, l.2.2.1)) = edgesGF w F p n := by
  induction F with
  | nil => intro p n k a; simp [linkages, edgesGF]
  | cons l nm kids rest ihk ihr => intro p n k a; simp [linkages, edgesGF, ihk, ihr]

theorem linkages_outside (down : Nat → α → α) (w : WalkCfg) (F : GF) (p n k : Nat) (a : α) (x : Nat) (hp : x ≠ p)
    (hx : x < n ∨ n + F.size ≤ x) : (linkages down w F p n k a).filter (fun l => l.1 == x) = [] := by
  have h := filter_outside w F p n x hp hx
  rw [← linkages_edges down w F p n k a, List.filter_map] at h
  exact List.map_eq_nil_iff.mp h

/-- **The children of every residue get the slots 0, 1, 2, … in sibling order** (the children of the node the forest hangs on
    continue from `k`). -/
theorem slots_consecutive (down : Nat → α → α) (w : WalkCfg) (F : GF) : ∀ (p n k : Nat) (a : α) (x : Nat), p < n →
    ((linkages down w F p n k a).filter (fun l => l.1 == x)).map Lk.slot =
      List.range' (if x = p then k else 0) ((linkages down w F p n k a).filter (fun l => l.1 == x)).length := by
  induction F with
  | nil => intro p n k a x _; simp [linkages]
  | cons l nm kids rest ihk ihr =>
    intro p n k a x hpn
    have hk := ihk n (n + 1) 0 (down p a) x (by omega)
    have hr := ihr p (n + 1 + kids.size) (k + 1) a x (by omega)
    simp only [linkages, List.filter_cons, List.filter_append]
    by_cases hx : x = p
    · -- a child of `p`: the root of the first tree, nothing inside it, then what the siblings contribute from `k + 1` on
      rw [linkages_outside down w kids n (n + 1) 0 (down p a) x (by omega) (Or.inl (by omega))]
      simpa [hx, Lk.slot, List.range'_succ] using hr
    · rw [if_neg (by simpa using Ne.symm hx), if_neg hx]
      by_cases hin : x < n + 1 + kids.size
      · rw [linkages_outside down w rest p (n + 1 + kids.size) (k + 1) a x hx (Or.inl hin), List.append_nil, hk, ite_self]
      · rw [linkages_outside down w kids n (n + 1) 0 (down p a) x (by omega) (Or.inr (by omega)), List.nil_append, hr, if_neg hx]

/-- every residue but the reducing end is the child of exactly one linkage: the children of the linkages are the ids n, n+1, … -/
theorem linkages_children (down : Nat → α → α) (w : WalkCfg) (F : GF) (p n k : Nat) (a : α) :
    (linkages down w F p n k a).map (·.2.1) = List.range' n F.size := by
  rw [← edges_children w F p n, ← linkages_edges down w F p n k a, List.map_map]; rfl

end Gly.Plan
